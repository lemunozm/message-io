import MioModel.Lemmas.EventQueueConc
/-! # C06 — The event queue returns every event exactly once, FIFO per sender

Concurrent semantics of M3 (`MioModel/EventQueueConc.lean`): for every schedule of any number of
sender threads, clock ticks and receiver micro-steps. -/
namespace Mio.C06
open Mio.EvQ
variable {E : Type}

/-- Plain and priority events: at every reachable state, what was sent is exactly what has been
returned so far followed by what is still queued — nothing lost, nothing invented, nothing
returned twice, and the returned sequence is the send order (FIFO). -/
theorem conservation_channels (s : St E) (h : Reachable s) :
    s.sentPlain = plainOuts s.returned ++ s.q.plain ∧ s.sentPrio = prioOuts s.returned ++ s.q.prio :=
  reachable_chinv s h

/-- FIFO per sender (per any class of events `p`, e.g. "sent by thread t"): the returned events of
the class are a prefix of the sent events of the class, in send order. -/
theorem fifo_per_sender (s : St E) (h : Reachable s) (p : E → Bool) :
    (plainOuts s.returned).filter p <+: s.sentPlain.filter p ∧
    (prioOuts s.returned).filter p <+: s.sentPrio.filter p := by
  obtain ⟨h1, h2⟩ := reachable_chinv s h
  rw [h1, h2, List.filter_append, List.filter_append]
  exact ⟨List.prefix_append _ _, List.prefix_append _ _⟩

/-- Timers scheduled from any threads get pairwise distinct keys (so one never overwrites another
in the map, even on the same instant). -/
theorem keys_unique (s : St E) (h : Reachable s) :
    List.Pairwise (fun a b => a.key ≠ b.key) s.created :=
  created_keys_distinct s h

/-- Timed events: every returned timer was scheduled (nothing invented), no timer is returned
twice, and every scheduled timer that was neither cancelled nor returned yet is still held. -/
theorem timers_exactly_once (s : St E) (h : Reachable s) :
    (retKeys s).Nodup ∧
    (∀ r ∈ timerOuts s.returned, ∃ c ∈ s.created, c.key = r.1 ∧ c.ev = r.2.1) ∧
    (∀ c ∈ s.created, c.key ∉ cancKeys s → c.key ∉ retKeys s → (c.key, c.ev) ∈ live s.q) := by
  have hi := reachable_tinv s h
  exact ⟨hi.retnodup, fun r hr => (hi.retsub r hr).1, hi.held⟩

/-- Whatever is held is eventually handed out by a non-blocking receive: a `try_receive` that
finds a queued priority/plain event or a timer expired at its clock reading does not report
nothing. -/
theorem try_receive_drains (s s' : St E) (dl : Option Nat) (tnow : Nat) (h : Reachable s)
    (hrx : s.rx = .clockRead .tryRecv dl tnow) (hstep : step s .foldPick = some s')
    (hwork : s.q.prio ≠ [] ∨ s.q.plain ≠ [] ∨ ∃ p ∈ live s.q, p.1.deadline ≤ tnow) :
    ∃ o t, s'.returned = s.returned ++ [(o, t)] ∧ (match o with | .none => False | _ => True) := by
  cases Step.of_step hstep with
  | pickPrio | pickTimer | pickPlain => exact ⟨_, _, rfl, trivial⟩
  | pickNone dl' tnow' hrx' hp hne hx =>
    rw [hrx] at hrx'; cases hrx'
    exact absurd hwork (no_work (reachable_tinv s h).srt hp hx hne)
  | block k dl' tnow' hrx' hk => rw [hrx] at hrx'; cases hrx'; exact absurd rfl hk

/-! Non-vacuity: a schedule with two senders interleaved with a blocked receiver. -/
example : ∃ s : St Nat, run {} [.call .recv 0, .readClock, .foldPick, .sendTimer 5 7, .wake .cmd, .send 1,
    .readClock, .foldPick, .wake .plain, .tick 5, .call .tryRecv 0, .readClock, .foldPick] = some s ∧
    s.returned.map (·.2) = [0, 5] ∧ plainOuts s.returned = [1] ∧ retKeys s = [⟨5, 0⟩] :=
  ⟨_, rfl, by decide, by decide, by decide⟩

end Mio.C06
