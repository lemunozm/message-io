import MioModel.Lemmas.ResourceId
import MioModel.Lemmas.Net
import MioModel.Props.C12
/-! # C14 — Endpoints identify one connection forever; ids are never reused

First the id itself (model M6): bit layout of `ResourceId`, the poll token, the id generator, the
transport/driver tables.  Then the history-level statements — stale endpoints are rejected, events carry
the right endpoint — on the network model (M5) and, for datagram events, on the UDP model (M8). -/
namespace Mio.C14
open Mio.Rid Mio.Generated

/-- The accessors of an id built from in-range fields return exactly those fields. -/
theorem fields_roundtrip (a : Nat) (t : RType) (b raw : Nat) (ha : a ≤ maxAdapterId)
    (hb : b ≤ maxBaseValue) (h : mk a t b = some raw) :
    adapterId raw = a ∧ resourceType raw = t ∧ baseValue raw = b ∧ raw < 2 ^ 64 := by
  obtain rfl := Option.some.inj ((mk_eq t ha hb).symm.trans h)
  have ha' : a < 128 := Nat.lt_succ_of_le ha
  have hlt : a + 128 * (tbit t + 2 * b) < 2 ^ 64 := by
    have := tbit_lt t; unfold maxBaseValue at hb; omega
  obtain ⟨h1, h2⟩ := add_mul_mod_div ha' (tbit t + 2 * b)
  obtain ⟨h3, h4⟩ := add_mul_mod_div (tbit_lt t) b
  refine ⟨(adapterId_eq _).trans h1, tbit_inj ?_, ?_, hlt⟩
  · rw [tbit_resourceType, h2, h3]
  · rw [baseValue_eq hlt, ← Nat.div_div_eq_div_mul _ 128 2, h2, h4]

/-- Out-of-range fields are rejected (the two `debug_assert!`s), never silently truncated. -/
theorem mk_guard (a : Nat) (t : RType) (b : Nat) :
    (mk a t b).isSome ↔ a ≤ maxAdapterId ∧ b ≤ maxBaseValue := by
  constructor
  · intro h
    unfold mk at h
    split at h
    · cases h
    · split at h
      · cases h
      · exact ⟨Nat.not_lt.mp ‹_›, Nat.not_lt.mp ‹_›⟩
  · intro ⟨ha, hb⟩
    rw [mk_eq t ha hb]; rfl

/-- For every raw value the three accessors partition the 64 bits: rebuilding an id from them gives
the raw value back (no bit is read by two accessors or by none). -/
theorem accessors_partition (raw : Nat) (h : raw < 2 ^ 64) :
    mk (adapterId raw) (resourceType raw) (baseValue raw) = some raw := by
  have ha : adapterId raw ≤ maxAdapterId := by
    rw [adapterId_eq]; exact Nat.le_of_lt_succ (Nat.mod_lt _ (by decide))
  have hb : baseValue raw ≤ maxBaseValue := by
    rw [baseValue_eq h]; exact Nat.le_of_lt_succ (Nat.div_lt_of_lt_mul h)
  rw [mk_eq _ ha hb, adapterId_eq, baseValue_eq h, tbit_resourceType, ← Nat.div_div_eq_div_mul _ 128 2,
    Nat.mod_add_div, Nat.mod_add_div]

/-- Distinct (adapter, type, base) triples give distinct ids. -/
theorem mk_injective (a a' : Nat) (t t' : RType) (b b' raw : Nat) (ha : a ≤ maxAdapterId)
    (ha' : a' ≤ maxAdapterId) (hb : b ≤ maxBaseValue) (hb' : b' ≤ maxBaseValue)
    (h : mk a t b = some raw) (h' : mk a' t' b' = some raw) : a = a' ∧ t = t' ∧ b = b' := by
  obtain ⟨h1, h2, h3, _⟩ := fields_roundtrip a t b raw ha hb h
  obtain ⟨h1', h2', h3', _⟩ := fields_roundtrip a' t' b' raw ha' hb' h'
  exact ⟨h1.symm.trans h1', h2.symm.trans h2', h3.symm.trans h3'⟩

/-- The poll token of an id identifies it and is never the waker's token. The bound `2^63` is the
real code's domain: beyond it the shift drops the top bit. -/
theorem token_roundtrip (raw : Nat) (h : raw < 2 ^ 63) :
    ofToken (toToken raw) = raw ∧ toToken raw ≠ wakerToken ∧ toToken raw < 2 ^ 64 := by
  rw [toToken_eq h, ofToken_eq]; unfold wakerToken; omega

/-- Ids whose base value is below `2^55` are in the token's domain. -/
theorem id_in_token_domain (a : Nat) (t : RType) (b raw : Nat) (ha : a ≤ maxAdapterId)
    (hb : b < 2 ^ 55) (h : mk a t b = some raw) : raw < 2 ^ 63 := by
  obtain rfl := Option.some.inj ((mk_eq t ha (Nat.le_of_lt (Nat.lt_of_lt_of_le hb (by decide)))).symm.trans h)
  have := tbit_lt t
  unfold maxAdapterId at ha
  omega

/-- Closed form of the generator: the i-th id carries the generator's adapter and type and the
base value `last + i`. -/
theorem generator_ids : ∀ (n : Nat) (g : Gen), g.adapter ≤ maxAdapterId → g.last + n ≤ maxBaseValue + 1 →
    ∀ i, i < n → (g.run n)[i]? = some (mk g.adapter g.rtype (g.last + i)) := by
  intro n
  induction n with
  | zero => intro g _ _ i hi; cases hi
  | succ n ih =>
    intro g ha hl i hi
    cases i with
    | zero => rfl
    | succ i =>
      have hmod : (g.last + 1) % 2 ^ 64 = g.last + 1 := by
        apply Nat.mod_eq_of_lt; unfold maxBaseValue at hl; omega
      have := ih (g.generate).2 ha
        (by show (g.last + 1) % 2 ^ 64 + n ≤ _; rw [hmod, Nat.add_right_comm]; exact hl) i (Nat.lt_of_succ_lt_succ hi)
      rw [Gen.run, List.getElem?_cons_succ, this]
      show some (mk g.adapter g.rtype ((g.last + 1) % 2 ^ 64 + i)) = _
      rw [hmod, Nat.add_assoc, Nat.add_comm 1 i]

/-- Ids handed out by one generator are all valid and pairwise distinct (fewer than `2^56`
registrations per registry — the domain in which `ResourceId::new` does not assert). -/
theorem generator_fresh (n : Nat) (g : Gen) (ha : g.adapter ≤ maxAdapterId)
    (hl : g.last + n ≤ maxBaseValue + 1) (i j : Nat) (hij : i < j) (hj : j < n) :
    ∃ x y, (g.run n)[i]? = some (some x) ∧ (g.run n)[j]? = some (some y) ∧ x ≠ y ∧
      adapterId x = g.adapter ∧ resourceType x = g.rtype := by
  have hbi : g.last + i ≤ maxBaseValue := by omega
  have hbj : g.last + j ≤ maxBaseValue := by omega
  have hx := mk_eq g.rtype ha hbi
  have hr := fields_roundtrip _ _ _ _ ha hbi hx
  exact ⟨_, _, (generator_ids n g ha hl i (Nat.lt_trans hij hj)).trans (congrArg some hx),
    (generator_ids n g ha hl j hj).trans (congrArg some (mk_eq g.rtype ha hbj)), by omega, hr.1, hr.2.1⟩

/-- Ids of different registries (another adapter, or listener vs connection) never coincide. -/
theorem generators_disjoint (g g' : Gen) (b b' x : Nat) (ha : g.adapter ≤ maxAdapterId)
    (ha' : g'.adapter ≤ maxAdapterId) (hb : b ≤ maxBaseValue) (hb' : b' ≤ maxBaseValue)
    (hne : g.adapter ≠ g'.adapter ∨ g.rtype ≠ g'.rtype)
    (h : mk g.adapter g.rtype b = some x) : mk g'.adapter g'.rtype b' ≠ some x := by
  intro h'
  have := mk_injective _ _ _ _ _ _ x ha ha' hb hb' h h'
  rcases hne with h1 | h1
  · exact h1 this.1
  · exact h1 this.2.1

/-- The transport table regenerated from the crate: ids are pairwise distinct and below
`MAX_ADAPTERS`, `Transport::from(t.id()) = t`, and the driver table dispatches an id's adapter field
to the driver mounted for exactly that transport. -/
theorem transport_table :
    (transports.map (·.id)).Nodup ∧ (∀ r ∈ transports, r.id < maxAdapters ∧ r.id ≤ maxAdapterId) ∧
    (∀ r ∈ transports, r.fromId = r.name) ∧
    (∀ r ∈ transports, transportOfId r.id = some r ∧ driverSlot r.id = some r.name) := by
  decide +kernel

/-- Slots without a mounted adapter hold the panic stub (`UnimplementedDriver`): stated, not hidden. -/
theorem unmounted_slot_panics (i : Nat) (h : ∀ r ∈ transports, r.id ≠ i) : driverSlot i = none := by
  unfold driverSlot
  split
  · have : transports.find? (fun r => decide (r.id = i)) = none := by
      rw [List.find?_eq_none]; intro r hr; simpa using h r hr
    rw [this]; rfl
  · rfl

/-- An id built for a transport's adapter is dispatched to that transport's driver. -/
theorem dispatch_by_adapter (r : TransportRow) (hr : r ∈ transports) (t : RType) (b raw : Nat)
    (hb : b ≤ maxBaseValue) (h : mk r.id t b = some raw) : dispatch raw = some r.name := by
  have ht := transport_table
  have hid := (ht.2.1 r hr).2
  unfold dispatch
  rw [(fields_roundtrip r.id t b raw hid hb h).1]
  exact (ht.2.2.2 r hr).2

/-! Non-vacuity: an id and its fields, an id and its token, three ids of one generator. -/
example : mk 3 .remote 5 = some 1283 ∧ adapterId 1283 = 3 ∧ resourceType 1283 = .remote ∧ baseValue 1283 = 5 := by
  decide
example : mk 1 .local 0 = some 129 ∧ toToken 129 = 259 ∧ ofToken 259 = 129 := by decide
example : ({ adapter := 2, rtype := .remote, last := 0 } : Gen).run 3 = [some 2, some 258, some 514] := by decide

/-! ## history level (network model M5, UDP model M8): an endpoint kept after its connection ended never
addresses a newer one -/
open Mio.Net in
/-- ids handed out by one registry are pairwise distinct over the whole history, and every id in
the registry map or in an event was handed out before (`< nextRemote`) -/
theorem ids_never_reused (s : St) (h : Net.Reachable s) :
    (s.regs.map (·.id)).Nodup ∧ (∀ r ∈ s.regs, r.id < s.nextRemote) ∧ s.live.Nodup :=
  let f := reachable_fresh s h
  ⟨f.regsNodup, f.regsLt, f.liveNodup⟩

open Mio.Net in
/-- after an endpoint ended (by `Disconnected`, `remove`, failed connect …), in every later history
`send` to it answers `ResourceNotFound`, the adapter's `send` is not invoked (no peer receives
anything) and the registry never contains the id again -/
theorem stale_endpoint_rejected (s s' s1 : St) (acts : List Act) (id : Nat) (a : Status)
    (hid : id < s.nextRemote) (hgone : id ∉ s.live) (hrun : run s acts = some s')
    (hs : step s' (.send id a) = some s1) :
    s1.results.getLast? = some ("send", id, "ResourceNotFound") ∧ s1.adapterSends = s'.adapterSends ∧
    id ∉ s1.live := by
  have hnl := (run_not_live acts s s' id hid hgone hrun).1
  cases (step_send_of_not_live hnl a).symm.trans hs
  exact ⟨getLast?_record .., rfl, hnl⟩

open Mio.Net in
/-- every event carries an id the registry handed out before the event (never a future or foreign one) -/
theorem event_ids_were_handed_out (s : St) (h : Net.Reachable s) (e : Net.Ev) (he : e ∈ s.log) (id : Nat)
    (hid : e.rid = some id) : id < s.nextRemote :=
  (reachable_inv s h).logIds e he id hid

/-- datagram events (model M8): the endpoint of a `Message` event on socket `j` names `j` itself and
the address of the socket whose successful send produced exactly these bytes — for a listener the
sender's own address (not the address the datagram arrived on), for a connected socket its peer -/
theorem datagram_event_names_receiver_and_sender (w : Udp.World) (h : Udp.Reachable w) (j : Nat)
    (s : Udp.Sock) (hj : w.socks[j]? = some s) (e : Udp.Ev) (he : e ∈ s.events) :
    e.ep.rid = j ∧ ∃ r ∈ w.log, r.dst = j ∧ r.src = e.ep.addr ∧ r.status = .sent ∧
      (Udp.cutK s.kind ⟨r.src, r.data⟩).data = e.data := by
  obtain ⟨h1, _, r, hr, h2, h3, h4, h5⟩ := C12.event_attributed_to_its_sender w h j s hj e he
  exact ⟨h1, r, hr, h2, h3, h5, h4⟩

end Mio.C14
