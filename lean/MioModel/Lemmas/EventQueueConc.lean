import MioModel.EventQueueConc
import MioModel.Lemmas.Basic
import MioModel.Lemmas.EventQueue
/-! Invariants of the concurrent event-queue model M3c, for every reachable state.

`step` is inverted once, into the transition table `Step` (the queue after `enque_timers()` is `folded q`, its
timer map `live q`).  The timer invariant `TInv` sees a step only through its effect `Eff` on the view `TView`;
the fields of `tview s` are projections of `s`, so what `TInv (tview s)` says is about `s` as it stands. -/
namespace Mio.EvQ
variable {E : Type}

inductive Step (s : St E) : Act E → St E → Prop
  | send (e) : Step s (.send e) { s with q := send s.q e, sentPlain := s.sentPlain ++ [e] }
  | sendPrio (e) : Step s (.sendPrio e) { s with q := sendPrio s.q e, sentPrio := s.sentPrio ++ [e] }
  | sendTimer (dur e) : Step s (.sendTimer dur e)
      { s with q := (sendTimer s.q s.now dur e).2,
               created := s.created ++ [⟨(sendTimer s.q s.now dur e).1, e, s.now, dur⟩] }
  | cancel (k) (hk : k ∈ s.created.map (·.key)) : Step s (.cancel k)
      { s with q := cancelTimer s.q k, cancelled := s.cancelled ++ [(k, s.now)] }
  | tick (n) : Step s (.tick n) { s with now := s.now + n }
  | call (k d) (hrx : s.rx = .idle) : Step s (.call k d)
      { s with rx := .started k (if k = .recvTimeout then some (s.now + d) else none) }
  | readClock (k dl) (hrx : s.rx = .started k dl) : Step s .readClock { s with rx := .clockRead k dl s.now }
  | pickPrio (k dl tnow) (hrx : s.rx = .clockRead k dl tnow) (p ps) (hp : s.q.prio = p :: ps) :
      Step s .foldPick (ret s (.prio p) { folded s.q with prio := ps })
  | pickTimer (k dl tnow) (hrx : s.rx = .clockRead k dl tnow) (key e ts) (hp : s.q.prio = [])
      (hl : live s.q = (key, e) :: ts) (hd : key.deadline ≤ tnow) :
      Step s .foldPick (ret s (.timer key e) { folded s.q with timers := ts })
  | pickPlain (dl tnow) (hrx : s.rx = .clockRead .tryRecv dl tnow) (hp : s.q.prio = [])
      (hne : NoneDue tnow s.q) (x xs) (hx : s.q.plain = x :: xs) :
      Step s .foldPick (ret s (.plain x) { folded s.q with plain := xs })
  | pickNone (dl tnow) (hrx : s.rx = .clockRead .tryRecv dl tnow) (hp : s.q.prio = [])
      (hne : NoneDue tnow s.q) (hx : s.q.plain = []) : Step s .foldPick (ret s .none (folded s.q))
  | block (k dl tnow) (hrx : s.rx = .clockRead k dl tnow) (hk : k ≠ .tryRecv) (hp : s.q.prio = [])
      (hne : NoneDue tnow s.q) : Step s .foldPick { s with q := folded s.q, rx := .blocked k dl }
  | wakePlain (k dl) (hrx : s.rx = .blocked k dl) (x xs) (hx : s.q.plain = x :: xs) :
      Step s (.wake .plain) (ret s (.plain x) { s.q with plain := xs })
  | wakePrio (k dl) (hrx : s.rx = .blocked k dl) (p ps) (hp : s.q.prio = p :: ps) :
      Step s (.wake .prio) (ret s (.prio p) { s.q with prio := ps })
  | wakeCmd (k dl) (hrx : s.rx = .blocked k dl) (c cs) (hc : s.q.cmds = c :: cs) : Step s (.wake .cmd)
      { s with q := { s.q with timers := applyCmd s.q.timers c, cmds := cs }, rx := .started k dl }
  | wakeTimer (k dl) (hrx : s.rx = .blocked k dl) (key e ts) (ht : s.q.timers = (key, e) :: ts)
      (hd : key.deadline ≤ s.now) : Step s (.wake .timer) { s with rx := .started k dl }
  | timeout (k t) (hrx : s.rx = .blocked k (some t)) (ht : t ≤ s.now) (hn : nothingReady s.q s.now = true) :
      Step s (.wake .timeout) (ret s .none s.q)

theorem readyEventK_prio {tnow : Nat} {q : Q E} {p : E} {ps : List E} (hp : q.prio = p :: ps) :
    readyEventK tnow q = (some (.prio p), { folded q with prio := ps }) := by
  simp [readyEventK, folded, live, hp]

theorem readyEventK_timer {tnow : Nat} {q : Q E} {k : Key} {e : E} {ts : List (Key × E)} (hp : q.prio = [])
    (hl : live q = (k, e) :: ts) (hd : k.deadline ≤ tnow) :
    readyEventK tnow q = (some (.timer k e), { folded q with timers := ts }) := by
  unfold live at hl
  simp [readyEventK, folded, hp, hl, hd]

theorem readyEventK_none {tnow : Nat} {q : Q E} (hp : q.prio = []) (hne : NoneDue tnow q) :
    readyEventK tnow q = (none, folded q) := by
  unfold NoneDue live at hne
  simp only [readyEventK, hp]
  split
  · rename_i k e ts hl; simp [folded, live, hp, Nat.not_le.mpr (hne k e ts hl)]
  · simp [folded, live, hp]

theorem Step.of_step {s s' : St E} {a : Act E} (h : step s a = some s') : Step s a s' := by
  cases a with
  | send e => cases h; exact .send _
  | sendPrio e => cases h; exact .sendPrio _
  | sendTimer dur e => cases h; exact .sendTimer _ _
  | cancel k =>
    simp only [step] at h
    split at h <;> cases h
    exact .cancel _ ‹_›
  | tick n => cases h; exact .tick _
  | call k d =>
    simp only [step] at h
    split at h <;> cases h
    exact .call _ _ ‹_›
  | readClock =>
    simp only [step] at h
    split at h <;> cases h
    exact .readClock _ _ ‹_›
  | foldPick =>
    simp only [step] at h
    split at h
    · rename_i k dl tnow hrx
      cases hp : s.q.prio with
      | cons p ps => rw [readyEventK_prio hp] at h; cases h; exact .pickPrio k dl tnow hrx p ps hp
      | nil =>
        rcases due_or_noneDue tnow s.q with ⟨key, e, ts, hl, hd⟩ | hne
        · rw [readyEventK_timer hp hl hd] at h; cases h; exact .pickTimer k dl tnow hrx key e ts hp hl hd
        · rw [readyEventK_none hp hne] at h
          cases k with
          | tryRecv =>
            simp only [folded] at h
            split at h <;> cases h
            · exact .pickPlain dl tnow hrx hp hne _ _ ‹_›
            · exact .pickNone dl tnow hrx hp hne ‹_›
          | recv | recvTimeout => cases h; exact .block _ dl tnow hrx (by decide) hp hne
    · cases h
  | wake src =>
    simp only [step] at h
    split at h
    · cases src with
      | plain =>
        simp only at h
        split at h <;> cases h
        exact .wakePlain _ _ ‹_› _ _ ‹_›
      | prio =>
        simp only at h
        split at h <;> cases h
        exact .wakePrio _ _ ‹_› _ _ ‹_›
      | cmd =>
        simp only at h
        split at h <;> cases h
        exact .wakeCmd _ _ ‹_› _ _ ‹_›
      | timer =>
        simp only at h
        split at h
        · split at h <;> cases h
          exact .wakeTimer _ _ ‹_› _ _ _ ‹_› ‹_›
        · cases h
      | timeout =>
        simp only at h
        split at h
        · split at h <;> cases h
          exact .timeout _ _ ‹_› (And.left ‹_›) (And.right ‹_›)
        · cases h
    · cases h

theorem Reachable.induction {P : St E → Prop} (h0 : P {}) (hstep : ∀ s s' a, P s → Step s a s' → P s')
    {s : St E} (h : Reachable s) : P s :=
  let ⟨acts, hr⟩ := h
  run_induction (fun _ => rfl) (fun s a _ => by simp only [run]; cases step s a <;> rfl)
    (fun s s' a hp hs => hstep s s' a hp (Step.of_step hs)) acts _ s h0 hr

def plainOuts (r : List (Out E × Nat)) : List E :=
  r.filterMap (fun o => match o.1 with | .plain e => some e | _ => none)
def prioOuts (r : List (Out E × Nat)) : List E :=
  r.filterMap (fun o => match o.1 with | .prio e => some e | _ => none)
/-- timers returned so far: key, event, time of return -/
def timerOuts (r : List (Out E × Nat)) : List (Key × E × Nat) :=
  r.filterMap (fun o => match o.1 with | .timer k e => some (k, e, o.2) | _ => none)
def retKeys (s : St E) : List Key := (timerOuts s.returned).map (·.1)
def cancKeys (s : St E) : List Key := s.cancelled.map (·.1)
def keysOf (ts : List (Key × E)) : List Key := ts.map (·.1)

theorem live_sendTimer (q : Q E) (now dur : Nat) (e : E) :
    live (sendTimer q now dur e).2 = insert (sendTimer q now dur e).1 e (live q) := by
  simp [live, sendTimer, foldCmds, applyCmd]

theorem live_cancel (q : Q E) (k : Key) : live (cancelTimer q k) = remove k (live q) := by
  simp [live, cancelTimer, foldCmds, applyCmd]

theorem nothingReady_iff (q : Q E) (now : Nat) :
    nothingReady q now = true ↔ q.plain = [] ∧ q.prio = [] ∧ q.cmds = [] ∧ NoneDue now q := by
  simp only [nothingReady, Bool.and_eq_true, List.isEmpty_iff, and_assoc]
  refine and_congr_right fun _ => and_congr_right fun _ => and_congr_right fun hc => ?_
  have hl : live q = q.timers := by rw [live, hc]; rfl
  unfold NoneDue
  rw [hl]
  split
  · rename_i k e ts ht
    rw [ht]
    simp only [Bool.not_eq_true', decide_eq_false_iff_not, Nat.not_le]
    exact ⟨fun h _ _ _ h' => (by cases h'; exact h), fun h => h k e ts rfl⟩
  · rename_i ht
    rw [ht]
    exact ⟨fun _ _ _ _ h' => (nomatch h'), fun _ => rfl⟩

def ClkInv (s : St E) : Prop := ∀ kd dl tnow, s.rx = .clockRead kd dl tnow → tnow ≤ s.now

theorem step_clk {s s' : St E} {a : Act E} (hi : ClkInv s) (h : Step s a s') : ClkInv s' := by
  intro kd dl tnow hrx
  cases h with
  | send | sendPrio | sendTimer | cancel => exact hi kd dl tnow hrx
  | tick n => exact Nat.le_trans (hi kd dl tnow hrx) (Nat.le_add_right _ _)
  | readClock k dl' hrx' => cases hrx; exact Nat.le_refl _
  | call | block | wakeCmd | wakeTimer | pickPrio | pickTimer | pickPlain | pickNone | wakePlain | wakePrio
  | timeout => cases hrx

/-- the timer subsystem as its invariant sees it -/
structure TView (E : Type) where
  live : List (Key × E)
  created : List (Sched E)
  cancelled : List (Key × Nat)
  rets : List (Key × E × Nat)
  now : Nat
  nextSeq : Nat

def tview (s : St E) : TView E := ⟨live s.q, s.created, s.cancelled, timerOuts s.returned, s.now, s.q.nextSeq⟩

/-- A step that does not concern the timers is `tick 0` (`v.now + 0` is `v.now` by `rfl`). -/
inductive Eff (v : TView E) : TView E → Prop
  | tick (n : Nat) : Eff v { v with now := v.now + n }
  | create (dur : Nat) (e : E) : Eff v { v with
      live := insert ⟨v.now + dur, v.nextSeq⟩ e v.live
      created := v.created ++ [⟨⟨v.now + dur, v.nextSeq⟩, e, v.now, dur⟩]
      nextSeq := v.nextSeq + 1 }
  | cancel (k : Key) (hk : k ∈ v.created.map (·.key)) : Eff v { v with
      live := remove k v.live, cancelled := v.cancelled ++ [(k, v.now)] }
  | pop (k : Key) (e : E) (ts : List (Key × E)) (hl : v.live = (k, e) :: ts) (hd : k.deadline ≤ v.now) :
      Eff v { v with live := ts, rets := v.rets ++ [(k, e, v.now)] }

theorem timerOuts_append (r r' : List (Out E × Nat)) : timerOuts (r ++ r') = timerOuts r ++ timerOuts r' :=
  List.filterMap_append

theorem Eff.ret {s : St E} {o : Out E} {q' : Q E} (hl : live q' = live s.q)
    (hq : q'.nextSeq = s.q.nextSeq) (ho : timerOuts [(o, s.now)] = []) : Eff (tview s) (tview (ret s o q')) := by
  simp only [tview, EvQ.ret, hl, hq, timerOuts_append, ho, List.append_nil]
  exact .tick 0

/-- `pop` wants the clock, `pickTimer` has the value read earlier in the call: hence `ClkInv` -/
theorem Eff.of_step {s s' : St E} {a : Act E} (hc : ClkInv s) (h : Step s a s') : Eff (tview s) (tview s') := by
  cases h with
  | send | sendPrio | call | readClock | wakeTimer | block => exact .tick 0
  | tick n => exact .tick n
  | sendTimer dur e => simp only [tview, live_sendTimer]; exact .create dur e
  | cancel k hk => simp only [tview, live_cancel]; exact .cancel k hk
  | pickTimer k dl tnow hrx key e ts hp hl hd =>
    simp only [tview, EvQ.ret, timerOuts_append]
    exact .pop key e ts hl (Nat.le_trans hd (hc k dl tnow hrx))
  | pickPrio | pickPlain | pickNone | wakePlain | wakePrio | timeout => exact Eff.ret rfl rfl rfl
  | wakeCmd k dl hrx c cs hcs =>
    have : live { s.q with timers := applyCmd s.q.timers c, cmds := cs } = live s.q := by rw [live, live, hcs]; rfl
    simp only [tview, this]
    exact .tick 0

/-- Read by the properties: `retnodup`, `held`, `retsub`'s first part (exactly once, C06); `seqs`, with `sub`
(distinct keys, scheduling disturbs nothing pending, C08); `retsub` with `dl` (never early, C08); `cexact`,
`canc`'s first part (cancellation, C08); `srt` (C06, C16).  `retnew` and the rest of `canc` keep those
inductive: a returned or cancelled key is not pending again, a cancelled key was scheduled. -/
structure TInv (v : TView E) : Prop where
  srt : Sorted v.live
  seqs : v.created.map (·.key.seq) = List.range v.nextSeq
  dl : ∀ c ∈ v.created, c.key.deadline = c.at_ + c.dur
  sub : ∀ p ∈ v.live, ∃ c ∈ v.created, c.key = p.1 ∧ c.ev = p.2
  held : ∀ c ∈ v.created, c.key ∉ v.cancelled.map (·.1) → c.key ∉ v.rets.map (·.1) →
    (c.key, c.ev) ∈ v.live
  retsub : ∀ r ∈ v.rets,
    (∃ c ∈ v.created, c.key = r.1 ∧ c.ev = r.2.1) ∧ r.1.deadline ≤ r.2.2 ∧ r.2.2 ≤ v.now
  retnew : ∀ r ∈ v.rets, r.1 ∉ keysOf v.live
  retnodup : (v.rets.map (·.1)).Nodup
  canc : ∀ x ∈ v.cancelled, x.1 ∉ keysOf v.live ∧ x.1 ∈ v.created.map (·.key)
  cexact : ∀ x ∈ v.cancelled, x.2 < x.1.deadline → x.1 ∉ v.rets.map (·.1)

theorem TInv.key_ne_next {v : TView E} (hi : TInv v) (c : Sched E) (hc : c ∈ v.created) (d : Nat) :
    c.key ≠ ⟨d, v.nextSeq⟩ := fun heq => by
  have : c.key.seq < v.nextSeq := List.mem_range.mp (hi.seqs ▸ List.mem_map_of_mem (f := (·.key.seq)) hc)
  rw [heq] at this
  exact Nat.lt_irrefl _ this

theorem keysOf_insert_subset {k : Key} {e : E} {ts : List (Key × E)} {x : Key}
    (h : x ∈ keysOf (insert k e ts)) : x = k ∨ x ∈ keysOf ts := by
  obtain ⟨p, hp, rfl⟩ := List.mem_map.mp h
  exact (eq_or_mem_of_mem_insert hp).imp (congrArg Prod.fst) (List.mem_map_of_mem (f := Prod.fst))

theorem keysOf_remove {k : Key} {ts : List (Key × E)} {x : Key} :
    x ∈ keysOf (remove k ts) ↔ x ∈ keysOf ts ∧ x ≠ k := by
  unfold keysOf
  constructor
  · intro h
    obtain ⟨p, hp, rfl⟩ := List.mem_map.mp h
    rw [mem_remove] at hp
    exact ⟨List.mem_map.mpr ⟨p, hp.1, rfl⟩, hp.2⟩
  · intro ⟨h, hne⟩
    obtain ⟨p, hp, rfl⟩ := List.mem_map.mp h
    exact List.mem_map.mpr ⟨p, mem_remove.mpr ⟨hp, hne⟩, rfl⟩

theorem TInv.eff {v v' : TView E} (hi : TInv v) (h : Eff v v') : TInv v' := by
  cases h with
  | tick n =>
    exact { hi with
      retsub := fun r hr =>
        ⟨(hi.retsub r hr).1, (hi.retsub r hr).2.1, Nat.le_trans (hi.retsub r hr).2.2 (Nat.le_add_right _ _)⟩ }
  | create dur e =>
    have new : ∀ c ∈ v.created, c.key ≠ ⟨v.now + dur, v.nextSeq⟩ := fun c hc => hi.key_ne_next c hc _
    have fresh : ∀ k ∈ v.created.map (·.key), k ∉ keysOf v.live →
        k ∉ keysOf (insert ⟨v.now + dur, v.nextSeq⟩ e v.live) := by
      intro k hk hn hmem
      obtain ⟨c, hc, rfl⟩ := List.mem_map.mp hk
      exact (keysOf_insert_subset hmem).elim (new c hc) hn
    exact {
      srt := insert_sorted hi.srt
      seqs := by
        show (v.created ++ [_]).map _ = List.range (v.nextSeq + 1)
        rw [List.map_append, hi.seqs, List.range_succ]; rfl
      dl := forall_mem_snoc hi.dl rfl
      sub := fun p hp => by
        rcases eq_or_mem_of_mem_insert hp with h1 | h1
        · exact ⟨_, List.mem_append_right _ (List.mem_singleton.mpr rfl), by rw [h1], by rw [h1]⟩
        · obtain ⟨c, hc1, hc2⟩ := hi.sub p h1
          exact ⟨c, List.mem_append_left _ hc1, hc2⟩
      held := forall_mem_snoc (fun c hc h1 h2 => mem_insert_of_ne (hi.held c hc h1 h2) (new c hc))
        (fun _ _ => mem_insert_self _ _ _)
      retsub := fun r hr => by
        obtain ⟨⟨c, hc1, hc2⟩, h2⟩ := hi.retsub r hr
        exact ⟨⟨c, List.mem_append_left _ hc1, hc2⟩, h2⟩
      retnew := fun r hr => by
        obtain ⟨⟨c, hc1, hc2, _⟩, _⟩ := hi.retsub r hr
        exact fresh _ (hc2 ▸ List.mem_map_of_mem hc1) (hi.retnew r hr)
      retnodup := hi.retnodup
      canc := fun x hx => by
        obtain ⟨h1, h2⟩ := hi.canc x hx
        exact ⟨fresh _ h2 h1, by rw [List.map_append]; exact List.mem_append_left _ h2⟩
      cexact := hi.cexact }
  | cancel k hk =>
    exact { hi with
      srt := remove_sorted hi.srt
      sub := fun p hp => hi.sub p (mem_remove.mp hp).1
      held := fun c hc h1 h2 => by
        rw [List.map_append, List.mem_append, not_or] at h1
        exact mem_remove.mpr ⟨hi.held c hc h1.1 h2, fun h => h1.2 (List.mem_singleton.mpr h)⟩
      retnew := fun r hr hmem => hi.retnew r hr (keysOf_remove.mp hmem).1
      canc := forall_mem_snoc
        (fun x hx => ⟨fun hmem => (hi.canc x hx).1 (keysOf_remove.mp hmem).1, (hi.canc x hx).2⟩)
        ⟨fun hmem => (keysOf_remove.mp hmem).2 rfl, hk⟩
      -- a timer returned earlier was due then, so its cancellation now is not before its deadline
      cexact := forall_mem_snoc hi.cexact fun hlt hmem => by
        obtain ⟨r, hr1, hr2⟩ := List.mem_map.mp hmem
        obtain ⟨_, h2, h3⟩ := hi.retsub r hr1
        rw [hr2] at h2
        exact Nat.lt_irrefl _ (Nat.lt_of_lt_of_le hlt (Nat.le_trans h2 h3)) }
  | pop k e ts hl hd =>
    have hsrt : Sorted ((k, e) :: ts) := hl ▸ hi.srt
    have hk : k ∈ keysOf v.live := by rw [hl]; exact List.mem_cons_self
    have hts : ∀ x ∈ keysOf ts, x ∈ keysOf v.live := fun x hx => by rw [hl]; exact List.mem_cons_of_mem _ hx
    have hknot : k ∉ keysOf ts := fun hmem => by
      obtain ⟨p, hp, hpk⟩ := List.mem_map.mp hmem
      have := (List.pairwise_cons.mp hsrt).1 p hp
      rw [hpk, Key.lt_irrefl] at this
      cases this
    exact { hi with
      srt := List.Pairwise.of_cons hsrt
      sub := fun p hp => hi.sub p (hl ▸ List.mem_cons_of_mem _ hp)
      held := fun c hc h1 h2 => by
        rw [List.map_append, List.mem_append, not_or] at h2
        have := hi.held c hc h1 h2.1
        rw [hl] at this
        exact (List.mem_cons.mp this).resolve_left fun h3 => h2.2 (List.mem_singleton.mpr (congrArg Prod.fst h3))
      retsub := forall_mem_snoc hi.retsub ⟨hi.sub (k, e) (hl ▸ List.mem_cons_self), hd, Nat.le_refl _⟩
      retnew := forall_mem_snoc (fun r hr hmem => hi.retnew r hr (hts _ hmem)) hknot
      retnodup := by
        show (List.map _ (v.rets ++ [_])).Nodup
        rw [List.map_append]
        refine nodup_snoc hi.retnodup fun hm => ?_
        obtain ⟨r, hr, e⟩ := List.mem_map.mp hm
        exact hi.retnew r hr (e ▸ hk)
      canc := fun x hx => ⟨fun hmem => (hi.canc x hx).1 (hts _ hmem), (hi.canc x hx).2⟩
      cexact := fun x hx hlt hmem => by
        rw [List.map_append, List.mem_append] at hmem
        rcases hmem with h1 | h1
        · exact hi.cexact x hx hlt h1
        · exact (hi.canc x hx).1 (List.mem_singleton.mp h1 ▸ hk) }

theorem reachable_tinv (s : St E) (h : Reachable s) : TInv (tview s) :=
  (h.induction (P := fun s => TInv (tview s) ∧ ClkInv s)
    ⟨⟨List.Pairwise.nil, rfl, List.forall_mem_nil _, List.forall_mem_nil _, List.forall_mem_nil _,
      List.forall_mem_nil _, List.forall_mem_nil _, List.nodup_nil, List.forall_mem_nil _, List.forall_mem_nil _⟩,
      fun _ _ _ h => nomatch h⟩
    fun _ _ _ hi h => ⟨hi.1.eff (Eff.of_step hi.2 h), step_clk hi.2 h⟩).1

theorem created_keys_distinct (s : St E) (h : Reachable s) :
    List.Pairwise (fun a b => a.key ≠ b.key) s.created := by
  have : List.Pairwise (· < ·) (s.created.map (·.key.seq)) := (reachable_tinv s h).seqs ▸ List.pairwise_lt_range
  refine (List.pairwise_map.mp this).imp ?_
  intro a b hab heq
  rw [heq] at hab
  exact Nat.lt_irrefl _ hab

/-- per channel, what was sent is what was returned followed by what is still queued (C06) -/
def ChInv (s : St E) : Prop :=
  s.sentPlain = plainOuts s.returned ++ s.q.plain ∧ s.sentPrio = prioOuts s.returned ++ s.q.prio

theorem ChInv.ret {s : St E} (hi : ChInv s) {o : Out E} {q' : Q E}
    (hpl : s.q.plain = plainOuts [(o, s.now)] ++ q'.plain)
    (hpr : s.q.prio = prioOuts [(o, s.now)] ++ q'.prio) : ChInv (ret s o q') := by
  obtain ⟨h1, h2⟩ := hi
  constructor
  · show s.sentPlain = plainOuts (s.returned ++ [(o, s.now)]) ++ q'.plain
    rw [plainOuts, List.filterMap_append, List.append_assoc, ← plainOuts, ← plainOuts, ← hpl, h1]
  · show s.sentPrio = prioOuts (s.returned ++ [(o, s.now)]) ++ q'.prio
    rw [prioOuts, List.filterMap_append, List.append_assoc, ← prioOuts, ← prioOuts, ← hpr, h2]

theorem step_chinv {s s' : St E} {a : Act E} (hi : ChInv s) (h : Step s a s') : ChInv s' := by
  cases h with
  | send e => exact ⟨by simp [send, hi.1], hi.2⟩
  | sendPrio e => exact ⟨hi.1, by simp [sendPrio, hi.2]⟩
  | sendTimer | cancel | tick | call | readClock | block | wakeCmd | wakeTimer => exact hi
  | pickPrio k dl tnow hrx p ps hp | wakePrio k dl hrx p ps hp => exact ChInv.ret hi rfl hp
  | pickPlain dl tnow hrx hp hne x xs hx | wakePlain k dl hrx x xs hx => exact ChInv.ret hi hx rfl
  | pickTimer | pickNone | timeout => exact ChInv.ret hi rfl rfl

theorem reachable_chinv (s : St E) (h : Reachable s) : ChInv s :=
  h.induction ⟨rfl, rfl⟩ fun _ _ _ => step_chinv

end Mio.EvQ
