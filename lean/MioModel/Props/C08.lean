import MioModel.Lemmas.EventQueueConc
/-! # C08 — Timers never fire early; cancellation is exact -/
namespace Mio.C08
open Mio.EvQ
variable {E : Type}

/-- A timed event is returned only at a time at or after (clock at the scheduling call) + (requested
duration): for every schedule of senders, ticks and receiver steps, whichever receive call is used. -/
theorem never_early (s : St E) (h : Reachable s) :
    ∀ r ∈ timerOuts s.returned, ∃ c ∈ s.created, c.key = r.1 ∧ c.ev = r.2.1 ∧ c.at_ + c.dur ≤ r.2.2 := by
  have hi := reachable_tinv s h
  intro r hr
  obtain ⟨⟨c, hc1, hc2, hc3⟩, h2, _⟩ := hi.retsub r hr
  refine ⟨c, hc1, hc2, hc3, ?_⟩
  have := hi.dl c hc1
  rw [hc2] at this; omega

/-- Cancelling a timer at a time strictly before its deadline guarantees it is never returned —
now or in any continuation of the schedule (the statement is about every reachable state). -/
theorem cancel_exact (s : St E) (h : Reachable s) :
    ∀ x ∈ s.cancelled, x.2 < x.1.deadline → x.1 ∉ retKeys s :=
  (reachable_tinv s h).cexact

/-- Once a cancel request is enqueued the timer is no longer pending, whenever it was issued. -/
theorem cancelled_not_pending (s : St E) (h : Reachable s) :
    ∀ x ∈ s.cancelled, x.1 ∉ keysOf (live s.q) :=
  fun x hx => ((reachable_tinv s h).canc x hx).1

/-- A cancel request touches exactly the timer it names: every other pending timer, including one
on the same instant, stays pending with the same key and event. -/
theorem cancel_isolated (q : Q E) (k : Key) (p : Key × E) (hne : p.1 ≠ k) :
    p ∈ live (cancelTimer q k) ↔ p ∈ live q := by
  rw [live_cancel, mem_remove]
  exact ⟨fun h => h.1, fun h => ⟨h, hne⟩⟩

/-- Two timers on the same instant have different keys, so `cancel_isolated` applies to them. -/
theorem same_instant_distinct (s : St E) (h : Reachable s) :
    List.Pairwise (fun a b => a.key ≠ b.key) s.created :=
  created_keys_distinct s h

/-- Scheduling another timer never disturbs a pending one (no overwrite). -/
theorem schedule_isolated (s : St E) (h : Reachable s) (dur : Nat) (e : E) (p : Key × E)
    (hp : p ∈ live s.q) : p ∈ live (sendTimer s.q s.now dur e).2 := by
  have hi := reachable_tinv s h
  rw [live_sendTimer]
  obtain ⟨c, hc1, hc2, _⟩ := hi.sub p hp
  exact mem_insert_of_ne hp (hc2 ▸ hi.key_ne_next c hc1 _)

/-! Non-vacuity: a timer cancelled while the receiver is blocked on it is not delivered; its twin on
the same instant is. -/
example : ∃ s : St Nat, run {} [.sendTimer 10 1, .sendTimer 10 2, .call .recvTimeout 50, .readClock, .foldPick,
    .tick 3, .cancel ⟨10, 0⟩, .wake .cmd, .readClock, .foldPick, .tick 7, .wake .timer, .readClock, .foldPick]
    = some s ∧ retKeys s = [⟨10, 1⟩] ∧ s.cancelled = [(⟨10, 0⟩, 3)] := ⟨_, rfl, by decide, by decide⟩

end Mio.C08
