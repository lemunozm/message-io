import MioModel.Lemmas.EventQueue
/-! # C07 — Receive order: priority, then expired timers by deadline, then FIFO

Sequential semantics of M3 (`MioModel/EventQueue.lean`): every call is issued from one thread, the
queue is quiescent at each receive.  `live q` is the set of pending timers once the queued timer
commands have been applied (what `enque_timers()` produces at the start of every receive). -/
namespace Mio.C07
open Mio.EvQ
variable {E : Type}

/-- `EvQ.live` again (equal by `rfl`); the statements below use this one -/
def live (q : Q E) : List (Key × E) := foldCmds q.timers q.cmds

/-- a timer is *expired* at `now` -/
def Expired (now : Nat) (p : Key × E) : Prop := p.1.deadline ≤ now

/-! ## 1. a queued priority event is returned first, by all three calls, immediately -/

theorem all_return_at_once {now : Nat} {q q1 : Q E} {e : E} (d : Nat) (h : tryReceive now q = (some e, q1)) :
    (tryReceive now q).1 = some e ∧
    (receiveTimeout now d q).1 = some e ∧ (receiveTimeout now d q).2.1 = now ∧
    (∃ q', receive now q = some (e, now, q')) := by
  rw [receiveTimeout_eq, receive_eq, h]
  exact ⟨rfl, rfl, rfl, q1, rfl⟩

theorem priority_first (now d : Nat) (q : Q E) (p : E) (ps : List E) (h : q.prio = p :: ps) :
    (tryReceive now q).1 = some p ∧
    (receiveTimeout now d q).1 = some p ∧ (receiveTimeout now d q).2.1 = now ∧
    (∃ q', receive now q = some (p, now, q')) :=
  all_return_at_once d (tryReceive_prio h)

/-! ## 2. otherwise an expired timer, the one with the smallest (deadline, scheduling order) key -/

theorem noneDue_iff_noExpired {now : Nat} {q : Q E} (hs : Sorted q.timers) :
    NoneDue now q ↔ ∀ y ∈ live q, ¬ Expired now y := by
  rw [noneDue_iff (foldCmds_sorted hs)]
  exact forall_congr' fun y => forall_congr' fun _ => Nat.not_le.symm

theorem expired_timer_next (now d : Nat) (q : Q E) (hs : Sorted q.timers) (hp : q.prio = [])
    (x : Key × E) (hx : x ∈ live q) (hex : Expired now x) :
    ∃ k e, (k, e) ∈ live q ∧ Expired now (k, e) ∧
      (∀ y ∈ live q, y.1 = k ∨ k.lt y.1 = true) ∧
      (tryReceive now q).1 = some e ∧
      (receiveTimeout now d q).1 = some e ∧ (receiveTimeout now d q).2.1 = now ∧
      (∃ q', receive now q = some (e, now, q')) := by
  have hsl : Sorted (EvQ.live q) := foldCmds_sorted hs
  rcases due_or_noneDue now q with ⟨k, e, ts, hl, hd⟩ | hne
  · have hl' : live q = (k, e) :: ts := hl
    rw [hl] at hsl
    rw [hl']
    exact ⟨k, e, List.mem_cons_self, hd, hsl.head_key_min, all_return_at_once d (tryReceive_timer hp hl hd)⟩
  · exact absurd hex ((noneDue_iff_noExpired hs).mp hne x hx)

/-! ## 3. otherwise the oldest plain event; unexpired timers never hold it back -/

theorem noneDue_of_noExpired {now : Nat} {q : Q E} (h : ∀ y ∈ live q, ¬ Expired now y) : NoneDue now q :=
  fun k e ts hl => Nat.not_le.mp (h (k, e) (by rw [live, ← EvQ.live, hl]; exact List.mem_cons_self))

theorem plain_otherwise (now d : Nat) (q : Q E) (hp : q.prio = [])
    (hne : ∀ y ∈ live q, ¬ Expired now y) (x : E) (xs : List E) (hx : q.plain = x :: xs) :
    (tryReceive now q).1 = some x ∧
    (receiveTimeout now d q).1 = some x ∧ (receiveTimeout now d q).2.1 = now ∧
    (∃ q', receive now q = some (x, now, q')) :=
  all_return_at_once d (tryReceive_plain hp (noneDue_of_noExpired hne) hx)

/-- the choice does not depend on which unexpired timers are pending: two queues with the same
channels and no expired timer return the same event -/
theorem pending_timer_transparent (now : Nat) (q q' : Q E) (hp : q.prio = q'.prio)
    (hpl : q.plain = q'.plain) (h1 : ∀ y ∈ live q, ¬ Expired now y)
    (h2 : ∀ y ∈ live q', ¬ Expired now y) : (tryReceive now q).1 = (tryReceive now q').1 := by
  have chan : ∀ r : Q E, NoneDue now r → (tryReceive now r).1 = (r.prio ++ r.plain).head? := by
    intro r hne
    cases hrp : r.prio with
    | cons p ps => rw [tryReceive_prio hrp]; rfl
    | nil =>
      cases hrx : r.plain with
      | cons x xs => rw [tryReceive_plain hrp hne hrx]; rfl
      | nil => rw [tryReceive_none hrp hne hrx]; rfl
  rw [chan q (noneDue_of_noExpired h1), chan q' (noneDue_of_noExpired h2), hp, hpl]

/-! ## 4. the non-blocking forms report nothing only when nothing is deliverable -/

theorem try_none_iff (now : Nat) (q : Q E) (hs : Sorted q.timers) :
    (tryReceive now q).1 = none ↔
      q.prio = [] ∧ q.plain = [] ∧ ∀ y ∈ live q, ¬ Expired now y := by
  rw [tryReceive_none_iff, noneDue_iff_noExpired hs]

/-- `receive_timeout(d)` reports nothing exactly when no priority or plain event is queued and no
timer expires within the window; it then returns at `now + d`, not earlier. -/
theorem timeout_none_iff (now d : Nat) (q : Q E) (hs : Sorted q.timers) :
    (receiveTimeout now d q).1 = none ↔
      q.prio = [] ∧ q.plain = [] ∧ ∀ y ∈ live q, ¬ Expired (now + d) y := by
  rw [receiveTimeout_none_iff, try_none_iff _ _ hs]

theorem timeout_none_time (now d : Nat) (q : Q E) (h : (receiveTimeout now d q).1 = none) :
    (receiveTimeout now d q).2.1 = now + d := by
  obtain ⟨t, _, _, hr, _, h4⟩ := receiveTimeout_spec now d q
  rw [hr] at h ⊢
  exact h4 h

/-! ## 5. the three calls make the same choice: a blocking call returns what `try_receive` would
return at the first instant of its window at which that is something -/

theorem timeout_agrees_with_try (now d : Nat) (q : Q E) (hs : Sorted q.timers) :
    let r := receiveTimeout now d q
    r.1 = (tryReceive r.2.1 q).1 ∧ r.2.2 = (tryReceive r.2.1 q).2 ∧ now ≤ r.2.1 ∧ r.2.1 ≤ now + d ∧
      ∀ t, now ≤ t → t < r.2.1 → (tryReceive t q).1 = none := by
  have _ := hs  -- not used: `receiveTimeout_spec` holds of every queue
  obtain ⟨t, h1, h2, h, h3, _⟩ := receiveTimeout_spec now d q
  rw [h]
  exact ⟨rfl, rfl, h1, h2, h3⟩

theorem receive_agrees_with_try (now : Nat) (q : Q E) (e : E) (t : Nat) (q' : Q E)
    (h : receive now q = some (e, t, q')) :
    (tryReceive t q).1 = some e ∧ (tryReceive t q).2 = q' ∧ now ≤ t ∧
      ∀ t', now ≤ t' → t' < t → (tryReceive t' q).1 = none := by
  obtain ⟨t0, h1, _, hr, h3, _⟩ := receiveTimeout_spec now t q
  rw [receiveTimeout_of_receive h (Nat.le_add_left t now), Prod.mk.injEq, Prod.mk.injEq] at hr
  obtain ⟨he, rfl, hq⟩ := hr
  exact ⟨he.symm, hq.symm, h1, h3⟩

/-! ## 6. scheduling order on ties; every reachable queue keeps the timer map sorted -/

/-- timers scheduled later from the same history get larger sequence numbers, so on equal
deadlines they are ordered by scheduling order -/
theorem schedule_order_breaks_ties (q : Q E) (now dur now' dur' : Nat) (e e' : E) :
    let (k, q1) := sendTimer q now dur e
    let (k', _) := sendTimer q1 now' dur' e'
    k.seq < k'.seq ∧ (k.deadline = k'.deadline → k.lt k' = true) := by
  simp only [sendTimer, Key.lt_iff]
  constructor
  · omega
  · intro h; right; exact ⟨h, by omega⟩

theorem stepOp_sorted (s : Nat × Q E) (op : Op E) (h : Sorted s.2.timers) :
    Sorted (stepOp s op).2.timers := by
  cases op with
  | send | sendPrio | sendTimer | cancel | tick => exact h
  | tryReceive => exact tryReceive_sorted h
  | receiveTimeout d => exact receiveTimeout_sorted _ _ h
  | receive =>
    simp only [stepOp]
    split
    · exact receive_sorted h ‹_›
    · exact h

/-- every queue reachable by any single-threaded history of sends, timers, cancels, clock ticks
and receives keeps its timer map sorted — the hypothesis of the theorems above is never vacuous and
never fails on a reachable state -/
theorem reachable_sorted (ops : List (Op E)) : Sorted (runOps (0, ({} : Q E)) ops).2.timers :=
  List.foldlRecOn (motive := fun s : Nat × Q E => Sorted s.2.timers) ops stepOp List.Pairwise.nil
    fun s hs op _ => stepOp_sorted s op hs

/-! Non-vacuity: the as-found counterexample history of F2 (far timer, then a plain event) on the
current model: `try_receive` returns the plain event, as `receive_timeout(0)` does. -/
def exQ : Q Nat := (send (sendTimer ({} : Q Nat) 0 1000 7).2 42)
example : (tryReceive 5 exQ).1 = some 42 := by decide
example : (receiveTimeout 5 0 exQ).1 = some 42 := by decide
example : (tryReceive 1000 exQ).1 = some 7 := by decide
example : ∃ q', receive 5 (sendPrio exQ 1) = some (1, 5, q') := ⟨_, rfl⟩

end Mio.C07
