-- Root of the `MioModel` library: models, lemmas, property theorems.
import MioModel.Bytes
import MioModel.Generated
import MioModel.Varint
import MioModel.Decoder
import MioModel.Stream
import MioModel.EventQueue
import MioModel.EventQueueConc
import MioModel.Node
import MioModel.Handover
import MioModel.Net
import MioModel.ResourceId
import MioModel.RemoteAddr
import MioModel.Udp
import MioModel.WsHandshake
import MioModel.Accept
import MioModel.AsFound.Stream
import MioModel.AsFound.EventQueue
import MioModel.AsFound.Decoder
import MioModel.AsFound.ReadyOnWrite
import MioModel.Lemmas.Basic
import MioModel.Lemmas.Varint
import MioModel.Lemmas.Decoder
import MioModel.Lemmas.SendLoop
import MioModel.Lemmas.Stream
import MioModel.Lemmas.EventQueue
import MioModel.Lemmas.EventQueueConc
import MioModel.Lemmas.Node
import MioModel.Lemmas.NodeOrder
import MioModel.Lemmas.NodeLive
import MioModel.Lemmas.Handover
import MioModel.Lemmas.Net
import MioModel.Lemmas.ResourceId
import MioModel.Lemmas.Udp
import MioModel.Props.C01
import MioModel.Props.C02
import MioModel.Props.C03
import MioModel.Props.C04
import MioModel.Props.C05
import MioModel.Props.C06
import MioModel.Props.C07
import MioModel.Props.C08
import MioModel.Props.C09
import MioModel.Props.C10
import MioModel.Props.C11
import MioModel.Props.C12
import MioModel.Props.C13
import MioModel.Props.C14
import MioModel.Props.C15
import MioModel.Props.C16
import MioModel.Props.C17
import MioModel.Props.C18
import MioModel.Props.C19
