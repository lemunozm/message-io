import MioModel.RemoteAddr
/-! # C19 — Remote address conversion classifies and preserves its input -/
namespace Mio.C19
open Mio Mio.RemoteAddr
variable {A : Type}

/-- socket-address form exactly when the string parses, string form otherwise -/
theorem classify (parse : String → Option A) (s : String) :
    (∀ a, ofStr parse s = .socket a ↔ parse s = some a) ∧
    (parse s = none ↔ ofStr parse s = .str s) := by
  unfold ofStr
  cases h : parse s <;> simp

/-- the original text is preserved -/
theorem text_preserved (parse : String → Option A) (showAddr : A → String) (s s' : String)
    (h : ofStr parse s = .str s') : s' = s ∧ display showAddr (ofStr parse s) = s := by
  unfold ofStr at h ⊢
  cases hp : parse s <;> simp_all [display]

/-- each predicate is true for exactly its own form, and exactly one of them holds -/
theorem predicates_exact (r : RemoteAddr A) :
    (isSocketAddr r = true ↔ ∃ a, r = .socket a) ∧ (isString r = true ↔ ∃ s, r = .str s) ∧
    (isSocketAddr r ≠ isString r) := by
  cases r <;> simp [isSocketAddr, isString]

/-- predicates agree with the parser on converted strings -/
theorem predicates_of_string (parse : String → Option A) (s : String) :
    isSocketAddr (ofStr parse s) = (parse s).isSome ∧ isString (ofStr parse s) = (parse s).isNone := by
  unfold ofStr
  cases parse s <;> exact ⟨rfl, rfl⟩

/-- the matching accessor returns the stored value; the other one is the documented panic -/
theorem accessors (a : A) (s : String) :
    socketAddr (.socket a) = some a ∧ string (.str s : RemoteAddr A) = some s ∧
    socketAddr (.str s : RemoteAddr A) = none ∧ string (.socket a) = none ∧
    toSocketAddrs (.socket a) = some a ∧ toSocketAddrs (.str s : RemoteAddr A) = none :=
  ⟨rfl, rfl, rfl, rfl, rfl, rfl⟩

/-- conversions from socket-address values are lossless -/
theorem from_addr_lossless (a : A) (showAddr : A → String) :
    socketAddr (ofAddr a) = some a ∧ isSocketAddr (ofAddr a) = true ∧ isString (ofAddr a) = false ∧
    display showAddr (ofAddr a) = showAddr a :=
  ⟨rfl, rfl, rfl, rfl⟩

/-- converting a string that is the printed form of an address, with a parser that inverts the
printer, gives back that address -/
theorem printed_roundtrip (parse : String → Option A) (showAddr : A → String)
    (hinv : ∀ a, parse (showAddr a) = some a) (a : A) : ofStr parse (showAddr a) = .socket a := by
  unfold ofStr; rw [hinv]

/-! Non-vacuity with a toy parser: both branches are inhabited. -/
def toyParse (s : String) : Option Nat := if s = "80" then some 80 else none
example : ofStr toyParse "80" = .socket 80 := by simp [ofStr, toyParse]
example : ofStr toyParse "ws://x" = (.str "ws://x" : RemoteAddr Nat) := by simp [ofStr, toyParse]

end Mio.C19
