import MioModel.Lemmas.Net
import MioModel.Lemmas.NodeLive
import MioModel.Accept
/-! # C18 — Closed resources release their OS socket; stopped nodes release their threads

Sockets (driver model M5): the register of a resource (`Arc<Register>`: it owns the socket and deregisters
it from the poll in `Drop`) is alive exactly while the registry map or an in-flight processor step holds it.
Threads: a stopped node's two dispatch threads reach their end (node model M4), and the accept loop they
may be in returns (M2a). -/
namespace Mio.C18
open Mio.Net

/-- a socket is open iff its register has a holder: the map entry, or the processor step in flight -/
theorem open_iff_held (s : St) (id : Nat) :
    id ∈ openSockets s ↔ id ∈ s.live ∨ procHolds s.proc = some id := by
  unfold openSockets
  cases procHolds s.proc with
  | none => simp
  | some x =>
    rw [Option.some.injEq]
    dsimp only
    split
    · exact ⟨.inl, fun h => h.elim (fun h => h) fun h => h ▸ List.contains_iff_mem.mp ‹_›⟩
    · exact ⟨fun h => (List.mem_cons.mp h).symm.imp_right Eq.symm,
        fun h => List.mem_cons.mpr (h.symm.imp_left Eq.symm)⟩

/-- when the processor is idle the open sockets are exactly the registered resources -/
theorem quiescent_open_eq_map (s : St) (h : s.proc = .idle) : openSockets s = s.live := by
  simp [openSockets, h, procHolds]

/-- every way a resource can end takes it out of the map: a successful `remove`, a `Disconnected`, a
failed connect, a failed inbound handshake (all are successful deregistrations, recorded in `dereg`) -/
theorem ended_not_registered (s : St) (h : Reachable s) : ∀ x ∈ s.dereg, x.1 ∉ s.live :=
  fun x hx => ((reachable_fresh s h).deregNot x hx).1

/-- hence: after any history in which every resource ever registered has ended (in whichever way) and
no processor step is in flight, no socket is left open -/
theorem all_ended_all_closed (s : St) (h : Reachable s) (hidle : s.proc = .idle)
    (hall : ∀ r ∈ s.regs, r.id ∈ s.dereg.map (·.1)) : openSockets s = [] := by
  have hf := reachable_fresh s h
  rw [quiescent_open_eq_map s hidle]
  refine List.eq_nil_iff_forall_not_mem.mpr fun x hx => ?_
  obtain ⟨r, hr, rfl⟩ := hf.liveReg x hx
  obtain ⟨d, hd, hdid⟩ := List.mem_map.mp (hall r hr)
  exact (hf.deregNot d hd).1 (hdid ▸ hx)

/-- and a register that left the map is never held again: once closed, closed forever -/
theorem closed_stays_closed (s s' : St) (acts : List Act) (id : Nat) (hid : id < s.nextRemote)
    (hgone : id ∉ s.live) (hrun : run s acts = some s') : id ∉ s'.live :=
  (run_not_live acts s s' id hid hgone hrun).1

/-! Non-vacuity: connect, refused; connect, established, peer closes; accepted, failed handshake. -/
example : ∃ s, run {} [.connect 1, .pollRemote 0 false, .pending .disconnected, .beginReceive 0 false,
    .connect 2, .pollRemote 1 false, .pending .ready, .beginReceive 0 false, .pollRemote 1 true, .checkReady,
    .beginReceive 0 true, .endReceive, .finish, .listen, .pollLocal 0 [5] [], .acceptOne, .acceptOne,
    .pollRemote 2 false, .pending .disconnected, .beginReceive 0 false] = some s ∧
    openSockets s = [] ∧ s.dereg.map (·.1) = [0, 1, 2] := by decide

/-! ## stopped nodes release their threads (node model M4)

The two dispatch threads are the only threads a running listener owns (the cache thread of
`NodeListener::new` is joined by the listener call itself). -/

/-- once stopped, both dispatch threads of a started listener reach their end under every schedule:
all schedules are finite and none is stuck before both are done, so `for_each` returns and a
`NodeTask` can be joined (`wait`/`drop`) — see `Mio.C09.stopped_node_every_schedule_finite`,
`stopped_node_no_deadlock` -/
theorem stopped_node_releases_threads (mode : Mio.Node.Mode) (c : Nat) (n : Mio.Node.St)
    (h : Mio.Node.Reachable mode c n) (hr : n.running = false) (hst : n.pcN ≠ .notStarted) :
    Acc Mio.Node.Next n ∧
    (¬ Mio.Node.Finished n → ∃ a, Mio.Node.ThreadAct a ∧ (Mio.Node.step n a).isSome = true) ∧
    ∃ acts n', (∀ a ∈ acts, Mio.Node.ThreadAct a) ∧ Mio.Node.run n acts = some n' ∧ Mio.Node.Finished n' :=
  have hS := Mio.Node.stopped_of_reachable mode c n h hr hst
  ⟨Mio.Node.acc_stopped n, Mio.Node.stopped_progress n hS,
    let ⟨acts, n', h1, h2, h3, _⟩ := Mio.Node.stopped_finishes hS
    ⟨acts, n', h1, h2, h3⟩⟩

/-! ## the accept loop gives the thread back (model M2a)

A network step of the node model (and `pollLocal` of M5) is one call of `Local::accept`; the thread
reaches its next look at the `running` flag only if that call returns. -/
section accept
open Mio.Accept

/-- the loop leaves at the first `WouldBlock` *or error* answer, having made exactly one `accept()` call
per answer up to there: whatever the kernel would answer afterwards (the same error again, for ever, as
with an exhausted descriptor table) is never asked for -/
theorem accept_loop_ends_at_first_stop (pre post : List AAns) (stop : AAns)
    (hpre : ∀ a ∈ pre, isStop a = false) (hstop : isStop stop = true) :
    acceptLoop (pre ++ stop :: post) = ⟨peers pre, pre.length + 1, true⟩ := by
  induction pre with
  | nil => cases stop <;> first | rfl | cases hstop
  | cons a pre ih =>
    have ih' := ih fun x hx => hpre x (List.mem_cons_of_mem _ hx)
    cases a with
    | conn p => exact congrArg (fun r : Res => (⟨p :: r.accepted, r.consumed + 1, r.ended⟩ : Res)) ih'
    | interrupted => exact congrArg (fun r : Res => (⟨r.accepted, r.consumed + 1, r.ended⟩ : Res)) ih'
    | wouldBlock | error => cases hpre _ List.mem_cons_self

/-- every connection the kernel handed over before that point reaches the callback once, in order -/
theorem accept_loop_hands_over_each_connection (ans : List AAns) :
    (acceptLoop ans).accepted = peers (ans.take (acceptLoop ans).consumed) ∧
    (acceptLoop ans).consumed ≤ ans.length := by
  induction ans with
  | nil => exact ⟨rfl, Nat.le_refl _⟩
  | cons a rest ih =>
    cases a with
    | conn p => exact ⟨congrArg (p :: ·) ih.1, Nat.succ_le_succ ih.2⟩
    | interrupted => exact ⟨ih.1, Nat.succ_le_succ ih.2⟩
    | wouldBlock | error => exact ⟨rfl, Nat.succ_le_succ (Nat.zero_le _)⟩

/-! Non-vacuity: one connection, an interrupted call, then EMFILE for ever (three shown). -/
example : acceptLoop [.conn 7, .interrupted, .error, .error, .error] = ⟨[7], 3, true⟩ := rfl

end accept

end Mio.C18
