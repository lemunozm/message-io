/-! What several models share: induction along `run`, facts about lists, two bit operations as arithmetic. -/
namespace Mio

/-- Induction along `run`.  Every small-step model defines `run` by the same two equations over its own
`step`.  A property kept by every step whose action satisfies `A` holds at the end of a run of such actions
(`run_induction`: of any run, if every step keeps it). -/
theorem run_induction_on {σ α : Type} {step : σ → α → Option σ} {run : σ → List α → Option σ}
    (run_nil : ∀ s, run s [] = some s)
    (run_cons : ∀ s a as, run s (a :: as) = (step s a).bind fun s' => run s' as)
    {A : α → Prop} {P : σ → Prop} (hstep : ∀ s s' a, A a → P s → step s a = some s' → P s') :
    ∀ acts s s', (∀ a ∈ acts, A a) → P s → run s acts = some s' → P s'
  | [], s, s', _, h, hr => by rw [run_nil] at hr; cases hr; exact h
  | a :: as, s, s', hA, h, hr => by
    rw [run_cons] at hr
    obtain ⟨s1, hs1, hr⟩ := Option.bind_eq_some_iff.mp hr
    exact run_induction_on run_nil run_cons hstep as s1 s' (fun b hb => hA b (List.mem_cons_of_mem a hb))
      (hstep s s1 a (hA a List.mem_cons_self) h hs1) hr

theorem run_induction {σ α : Type} {step : σ → α → Option σ} {run : σ → List α → Option σ}
    (run_nil : ∀ s, run s [] = some s)
    (run_cons : ∀ s a as, run s (a :: as) = (step s a).bind fun s' => run s' as)
    {P : σ → Prop} (hstep : ∀ s s' a, P s → step s a = some s' → P s') (acts : List α) (s s' : σ) :
    P s → run s acts = some s' → P s' :=
  run_induction_on run_nil run_cons (A := fun _ => True) (fun s s' a _ => hstep s s' a) acts s s' fun _ _ => trivial

/-- two ways to cut one list: the shorter first part is a prefix of the longer -/
theorem split_of_le {α} {a b c d : List α} (h : a ++ b = c ++ d) (hl : a.length ≤ c.length) :
    ∃ t, c = a ++ t ∧ b = t ++ d := by
  obtain ⟨t, rfl⟩ := List.prefix_of_prefix_length_le (List.prefix_append a b) (h ▸ List.prefix_append c d) hl
  exact ⟨t, rfl, List.append_cancel_left (by rw [h, List.append_assoc])⟩

/-- consecutive numbering: two lists that together count `0 … n-1` are the ranges of their lengths -/
theorem range_split {a b : List Nat} {n : Nat} (h : a ++ b = List.range n) :
    a = List.range a.length ∧ b = List.range' a.length b.length ∧ a.length + b.length = n := by
  have hn : a.length + b.length = n := by simpa using congrArg List.length h
  refine ⟨?_, ?_, hn⟩
  · have := congrArg (List.take a.length) h
    rwa [List.take_left, List.take_range, Nat.min_eq_left (by omega)] at this
  · have := congrArg (List.drop a.length) h
    rw [List.drop_left, List.range_eq_range', List.drop_range'] at this
    exact this.trans (by rw [Nat.zero_add, Nat.mul_one, ← hn, Nat.add_sub_cancel_left])

theorem filterMap_range_getElem? {α} (l : List α) (k : Nat) :
    (List.range k).filterMap (fun i => l[i]?) = l.take k := by
  induction k with
  | zero => simp
  | succ k ih =>
    rw [List.range_succ, List.filterMap_append, ih, List.take_add_one]
    cases h : l[k]? <;> simp [h]

theorem forall_mem_snoc {α : Type} {p : α → Prop} {l : List α} {a : α} (hl : ∀ x ∈ l, p x) (ha : p a) :
    ∀ x ∈ l ++ [a], p x := fun x hx =>
  (List.mem_append.mp hx).elim (hl x) fun h => List.mem_singleton.mp h ▸ ha

theorem nodup_snoc {α : Type} {l : List α} {a : α} (hl : l.Nodup) (ha : a ∉ l) : (l ++ [a]).Nodup :=
  List.nodup_append.mpr
    ⟨hl, List.pairwise_singleton _ _, fun _ hb _ hc hbc => ha (List.mem_singleton.mp hc ▸ hbc ▸ hb)⟩

/-- a number below `2 ^ i` and one shifted by `i` occupy different bits -/
theorem or_shiftLeft {a i : Nat} (h : a < 2 ^ i) (b : Nat) : a ||| b <<< i = a + 2 ^ i * b := by
  rw [Nat.or_comm, ← Nat.shiftLeft_add_eq_or_of_lt h, Nat.shiftLeft_eq, Nat.mul_comm, Nat.add_comm]

theorem and_two_pow (x i : Nat) : x &&& 2 ^ i = 2 ^ i * (x / 2 ^ i % 2) := by
  have h1 : (x &&& 2 ^ i) / 2 ^ i = x / 2 ^ i % 2 := by
    rw [Nat.and_div_two_pow, Nat.div_self (Nat.two_pow_pos i)]
    exact Nat.and_two_pow_sub_one_eq_mod _ 1
  have h2 : (x &&& 2 ^ i) % 2 ^ i = 0 := by
    rw [Nat.and_mod_two_pow, Nat.mod_self, Nat.and_zero]
  rw [← h1, ← Nat.div_add_mod (x &&& 2 ^ i) (2 ^ i), h2, Nat.add_zero,
    Nat.mul_div_cancel_left _ (Nat.two_pow_pos i)]

end Mio
