import MioModel.Lemmas.Decoder
import MioModel.WsHandshake
import MioModel.Lemmas.Net
/-! # C17 — A misbehaving peer cannot crash, wedge or confuse the node

Three parts.  The decoder (M1): the FramedTcp receive path hands every byte a peer writes, in whatever
chunking the kernel produces, to `Decoder::decode`; these theorems quantify over *arbitrary* byte strings.
The driver (M5): what a peer does to its own connection stays on that connection.  The WebSocket
handshake (M2w): whatever a peer answers, `pending()` puts a proper state back. -/
namespace Mio.C17
open Mio Mio.Generated

/-- No byte sequence, in any chunking, makes the decoder panic: every checked subtraction in
`store_and_decoded_data` is safe on every reachable decoder state. -/
theorem feed_total (chunks : List Bytes) : feed [] chunks ≠ none := by
  obtain ⟨st, outs, hr, _⟩ := feed_total_general chunks [] DecInv_nil
  rw [hr]; exact Option.some_ne_none _

/-- One more call on any reachable decoder state never panics (the invariant is inductive, so the
statement holds after any history, not only from the empty decoder). -/
theorem decode_total_reachable (history : List Bytes) (st : Bytes) (outs : List Bytes)
    (h : feed [] history = some (st, outs)) (data : Bytes) : decode st data ≠ none := by
  obtain ⟨st', outs', hf, hinv⟩ := feed_total_general history [] DecInv_nil
  rw [hf] at h
  cases h
  obtain ⟨s', o, hd, _⟩ := decode_total st data hinv
  rw [hd]; exact Option.some_ne_none _

/-- An over-long size prefix (ten or more buffered bytes that still do not decode) stops the buffer
growing: further data is dropped, nothing is delivered, memory stays bounded. -/
theorem garbage_prefix_bounded (st data : Bytes) (hnone : decodeVar st = none)
    (hlen : maxEncodedSize ≤ st.length) : decode st data = some (st, []) := by
  have hst : st ++ data.take (maxRemaining st data) = st := by
    rw [maxRemaining, Nat.sub_eq_zero_of_le hlen, Nat.zero_min, List.take_zero, List.append_nil]
  have := decode_stuck st data (List.ne_nil_of_length_pos (Nat.lt_of_lt_of_le (by decide) hlen)) hnone
    (hst.symm ▸ hnone)
  rwa [hst] at this

/-- What a decoder that refuses a prefix has seen: only continuation bytes among the first ten. -/
theorem undecodable_is_all_continuation (st : Bytes) (h : decodeVar st = none) :
    ∀ b ∈ st.take 10, 128 ≤ b.toNat := decodeVar_none_cont h

/-! Non-vacuity / regression witnesses: the two inputs that panicked the decoder as found
(`MioModel/AsFound/Decoder.lean`) are handled by the current model. -/
example : feed [] [[0x80], [0x00, 1, 2, 3]] = some ([3], [[], [2]]) := by decide
example : feed [] [List.replicate 11 0xff, [1]] = some (List.replicate 11 0xff, []) := by decide
example : decodeVar (List.replicate 11 0xff) = none ∧ maxEncodedSize ≤ (List.replicate 11 (0xff : UInt8)).length := by
  decide

/-! ## network level (M5): what a peer does to its own connection stays on that connection -/
open Mio.Net

/-- Non-interference: a processor step working on connection `id` — whatever the adapter answers
(handshake failure, any number of messages, disconnection, reset) — changes the registration of no
other connection, the `ready` flag of no other connection, and reports events about `id` only. -/
theorem process_frame (s s' : St) (a : Act) (id : Nat) (hp : procHolds s.proc = some id)
    (ha : isProcAct a = true) (hs : step s a = some s') :
    (∀ x, x ≠ id → (x ∈ s'.live ↔ x ∈ s.live)) ∧
    (∃ evs, s'.log = s.log ++ evs ∧ ∀ e ∈ evs, e.rid = some id) ∧
    (∀ r ∈ s.regs, r.id ≠ id → r ∈ s'.regs) :=
  have f := step_frame hp ha hs
  ⟨f.live, f.log, fun r hr hne => (f.regs r hne).mpr hr⟩

/-- a failed inbound handshake produces no event at all, and a failed outbound one only
`Connected(.., false)` (C03): no event ever names a connection that was never established -/
theorem failed_handshake_isolated (s : St) (h : Net.Reachable s) (r : Reg) (hr : r ∈ s.regs)
    (hacc : r.listener ≠ none) (hnr : r.ready = false) : proj r.id s.log = [] :=
  ((reachable_inv s h).good r hr).silent hacc hnr

/-! ## The WebSocket handshake state machine (M2w)

A hostile or broken peer decides what each handshake step answers.  Whatever it answers, `pending()`
puts a proper state back (never the moved-from placeholder), does not panic while the handshake is in
progress, reports `Ready` exactly when the connection became a WebSocket, and after `Disconnected` the
driver never calls into the resource again (`failed_handshake_isolated` and M5: the resource is
deregistered in the same step), so the `unreachable!()` arms stay unreachable. -/

/-- no step of a handshake in progress panics, for every legal answer -/
theorem ws_pending_total (p : Mio.WsHs.Phase) (a : Mio.WsHs.HsAns) (hl : Mio.WsHs.LegalAns p a) :
    (Mio.WsHs.pending (.handshake (some p)) a).isSome = true := by
  cases p <;> cases a <;> first | rfl | cases hl

/-- the state put back is never the placeholder `Handshake(None)` -/
theorem ws_pending_restores_state (s s' : Mio.WsHs.St) (a : Mio.WsHs.HsAns) (st : Mio.WsHs.Pending)
    (h : Mio.WsHs.pending s a = some (s', st)) : s' ≠ .handshake none := by
  cases s with
  | webSocket => cases h; nofun
  | error => cases h
  | handshake p =>
    cases p with
    | none => cases h
    | some p => cases p <;> cases a <;> cases h <;> nofun

/-- `Ready` is answered exactly when the resource is an established WebSocket afterwards, so the
`receive` / `send` that follow an `Accepted` / `Connected(true)` event never hit their `unreachable!()` -/
theorem ws_ready_iff_websocket (p : Mio.WsHs.Phase) (a : Mio.WsHs.HsAns) (s' : Mio.WsHs.St) (st : Mio.WsHs.Pending)
    (h : Mio.WsHs.pending (.handshake (some p)) a = some (s', st)) :
    (st = .ready ↔ s' = .webSocket) ∧ (st = .ready → Mio.WsHs.usable s' = some ()) := by
  cases p <;> cases a <;> cases h <;> decide

/-- a failed handshake answers `Disconnected` (the driver then forgets the resource) -/
theorem ws_failure_disconnects (p : Mio.WsHs.Phase) :
    Mio.WsHs.pending (.handshake (some p)) .failure = some (.error, .disconnected) := by
  cases p <;> rfl

/-- an interrupted handshake stays in a handshake phase of its own side: client phases never become
server phases -/
theorem ws_incomplete_keeps_side (p : Mio.WsHs.Phase) (a : Mio.WsHs.HsAns) (s' : Mio.WsHs.St)
    (h : Mio.WsHs.pending (.handshake (some p)) a = some (s', .incomplete)) :
    ((p = .connect ∨ p = .client) → s' = .handshake (some .connect) ∨ s' = .handshake (some .client)) ∧
    ((p = .accept ∨ p = .server) → s' = .handshake (some .server)) := by
  cases p <;> cases a <;> cases h <;> decide

end Mio.C17
