import MioModel.Stream
/-! The send loops of M2.  Raw Tcp's loop is FramedTcp's with an empty size prefix
(`tcpSendLoop_eq_framed`), so everything is proved about `framedSendLoop`: it never gives up
(`WouldBlock` is invisible, only a kernel error ends a send that has not written everything), and what
it writes is what is left of `prefix ++ data`, from the front. -/
namespace Mio.Stream
open Mio

theorem tcpSendLoop_eq_framed (data : Bytes) : ∀ (sched : List WAns) (sent : Nat),
    tcpSendLoop data sent sched = framedSendLoop [] data sent sched
  | [], _ => rfl
  | .wouldBlock :: as, sent => by rw [tcpSendLoop, framedSendLoop, tcpSendLoop_eq_framed data as]
  | .error :: as, sent => rfl
  | .accept k :: as, sent => by
    simp only [tcpSendLoop, framedSendLoop, tcpSendLoop_eq_framed data as, List.length_nil,
      Nat.not_lt_zero, if_false, Nat.sub_zero, Nat.zero_add]

theorem framedSendLoop_wouldBlock_transparent (pre data : Bytes) : ∀ (sched : List WAns) (sent : Nat),
    framedSendLoop pre data sent (sched.filter (fun a => a != .wouldBlock)) = framedSendLoop pre data sent sched
  | [], _ => rfl
  | .wouldBlock :: as, sent => by
    rw [framedSendLoop]; exact framedSendLoop_wouldBlock_transparent pre data as sent
  | .error :: as, sent => rfl
  | .accept k :: as, sent => by
    rw [List.filter_cons_of_pos rfl, framedSendLoop, framedSendLoop,
      framedSendLoop_wouldBlock_transparent pre data as]

theorem framedSendLoop_status (pre data : Bytes) : ∀ (sched : List WAns) (sent : Nat),
    (framedSendLoop pre data sent sched).status = none ∨
    (framedSendLoop pre data sent sched).status = some .sent ∨
    ((framedSendLoop pre data sent sched).status = some .resourceNotFound ∧ WAns.error ∈ sched)
  | [], _ => .inl rfl
  | .wouldBlock :: as, sent => by
    rw [framedSendLoop]
    exact (framedSendLoop_status pre data as sent).imp_right (.imp_right (.imp_right (List.mem_cons_of_mem _)))
  | .error :: as, sent => .inr (.inr ⟨rfl, List.mem_cons_self⟩)
  | .accept k :: as, sent => by
    rw [framedSendLoop]
    dsimp only
    generalize (if sent < pre.length then pre.drop sent else data.drop (sent - pre.length)) = buf
    split
    · exact .inr (.inl rfl)
    · exact (framedSendLoop_status pre data as _).imp_right (.imp_right (.imp_right (List.mem_cons_of_mem _)))

theorem framedSendLoop_no_error (pre data : Bytes) (sched : List WAns) (sent : Nat)
    (h : ∀ a ∈ sched, a ≠ WAns.error) :
    (framedSendLoop pre data sent sched).status = none ∨ (framedSendLoop pre data sent sched).status = some .sent :=
  (framedSendLoop_status pre data sched sent).imp_right fun h' => h'.resolve_right fun h'' => h _ h''.2 rfl

/-- the slice `framed_tcp::send` hands to `write` is the head of what is left of `prefix ++ data` -/
theorem framed_slice (pre data : Bytes) (sent : Nat) :
    ∃ t, (pre ++ data).drop sent =
      (if sent < pre.length then pre.drop sent else data.drop (sent - pre.length)) ++ t := by
  split
  · next h => exact ⟨data, List.drop_append_of_le_length (Nat.le_of_lt h)⟩
  · next h => exact ⟨[], by rw [List.drop_append, List.drop_eq_nil_of_le (Nat.le_of_not_lt h),
      List.nil_append, List.append_nil]⟩

theorem framedSendLoop_take (pre data : Bytes) : ∀ (sched : List WAns) (sent : Nat),
    ∃ n, (framedSendLoop pre data sent sched).wire = ((pre ++ data).drop sent).take n ∧
      ((framedSendLoop pre data sent sched).status = some .sent → (pre ++ data).length ≤ sent + n)
  | [], _ => ⟨0, rfl, nofun⟩
  | .wouldBlock :: as, sent => by rw [framedSendLoop]; exact framedSendLoop_take pre data as sent
  | .error :: as, sent => ⟨0, rfl, nofun⟩
  | .accept k :: as, sent => by
    obtain ⟨t, ht⟩ := framed_slice pre data sent
    rw [framedSendLoop]
    dsimp only
    generalize (if sent < pre.length then pre.drop sent else data.drop (sent - pre.length)) = buf at ht
    have hw : buf.take (min k buf.length) = ((pre ++ data).drop sent).take (min k buf.length) := by
      rw [ht, List.take_append_of_le_length (Nat.min_le_right _ _)]
    split
    · next hdone =>
      exact ⟨_, hw, fun _ => by rw [List.length_append]; exact Nat.le_of_eq hdone.symm⟩
    · obtain ⟨n, hn, hs⟩ := framedSendLoop_take pre data as (sent + min k buf.length)
      exact ⟨min k buf.length + n, by rw [hn, hw, ← List.drop_drop, ← List.take_add],
        fun h => by rw [← Nat.add_assoc]; exact hs h⟩

theorem framedSendLoop_wire (pre data : Bytes) (sched : List WAns) (sent : Nat) :
    (framedSendLoop pre data sent sched).wire <+: (pre ++ data).drop sent ∧
    ((framedSendLoop pre data sent sched).status = some .sent →
      (framedSendLoop pre data sent sched).wire = (pre ++ data).drop sent) := by
  obtain ⟨n, hn, hs⟩ := framedSendLoop_take pre data sched sent
  rw [hn]
  exact ⟨List.take_prefix _ _, fun h => List.take_of_length_le (by rw [List.length_drop]; have := hs h; omega)⟩

theorem framedSend_wire (data : Bytes) (sched : List WAns) :
    (framedSend data sched).wire <+: frame data ∧
    ((framedSend data sched).status = some .sent → (framedSend data sched).wire = frame data) :=
  framedSendLoop_wire (encodeVar data.length) data sched 0

theorem framedSend_wires {α : Type} (f : α → Bytes × List WAns) : ∀ (l : List α),
    (∀ a ∈ l, (framedSend (f a).1 (f a).2).status = some .sent) →
    (l.map fun a => (framedSend (f a).1 (f a).2).wire).flatten = frames (l.map fun a => (f a).1)
  | [], _ => rfl
  | a :: l, hs => by
    rw [List.map_cons, List.flatten_cons, List.map_cons, (framedSend_wire _ _).2 (hs a List.mem_cons_self),
      framedSend_wires f l fun x hx => hs x (List.mem_cons_of_mem _ hx)]
    exact List.flatten_cons.symm

end Mio.Stream
