import MioModel.Lemmas.Udp
/-! # C12 — UDP datagrams are delivered unmodified and attributed to their sender

Model M8 (`MioModel/Udp.lean`).  Every theorem is about all worlds reachable by any sequence of socket
creations, library sends, foreign sends and readiness events, for every payload.  The kernel's
datagram service is the environment of the model (see the header of `Udp.lean`): what is proved is
that the library's side — size check, send path selection, receive loop, buffer size, event
construction — neither loses, merges, splits, cuts, duplicates, misattributes nor invents anything. -/
namespace Mio.C12
open Mio.Udp

/-- **Identity, exactly once, in order.**  For every socket, the datagrams reported so far (as
`(source address in the endpoint, payload)`) followed by those still queued are exactly the datagrams
that the history of send calls addressed to it — one event per datagram, in order — each passed through
`cutK` (= `recv` into the reader's buffer: the adapter's `MAX_LOCAL_PAYLOAD_LEN` bytes for a library
socket) … -/
theorem delivered_exactly_once (w : World) (h : Reachable w) (j : Nat) (s : Sock)
    (hj : w.socks[j]? = some s) :
    s.events.map evDgram ++ s.queue.map (cutK s.kind) = (expected w.log j s.kind).map (cutK s.kind) := by
  have hs := (reachable_inv w h).socks j s hj
  rw [hs.split, hs.exp]

/-- … and that changes nothing for any payload size from 0 to the declared maximum: byte-identical,
never truncated.  (Only a foreign IPv6 socket can produce a longer datagram; that is outside the
property's range of sizes.) -/
theorem unmodified_up_to_declared_maximum (k : Kind) (d : Dgram) (h : d.data.length ≤ maxLen) :
    cutK k d = d := by
  cases k with
  | raw => rfl
  | listener | connected => exact cut_of_small d h

/-- everything the library itself sends is within that range -/
theorem library_sends_within_maximum (w : World) (h : Reachable w) (r : SendRec) (hr : r ∈ w.log)
    (hl : r.viaLibrary = true) (hs : r.status = .sent) : r.data.length ≤ maxLen :=
  (reachable_inv w h).libSmall r hr hl hs

/-- only what foreign sockets got through has to be small: the library's own sends are (`libSmall`) -/
theorem delivered_unmodified_of_foreign_small (w : World) (h : Reachable w) (j : Nat) (s : Sock)
    (hj : w.socks[j]? = some s)
    (hsmall : ∀ r ∈ w.log, r.viaLibrary = false → r.status = .sent → r.data.length ≤ maxLen) :
    s.events.map evDgram ++ s.queue = expected w.log j s.kind := by
  have hi := reachable_inv w h
  have hs := hi.socks j s hj
  have hexp : ∀ d ∈ expected w.log j s.kind, cutK s.kind d = d := by
    intro d hd
    obtain ⟨r, hr, hf, rfl⟩ := mem_expected.mp hd
    have hst := (feeds_iff.mp hf).2.1
    refine unmodified_up_to_declared_maximum _ _ ?_
    cases hl : r.viaLibrary with
    | true => exact hi.libSmall r hr hl hst
    | false => exact hsmall r hr hl hst
  have hq : ∀ d ∈ s.queue, cutK s.kind d = d := fun d hd => hexp d (hs.exp ▸ hs.queued d hd)
  have h1 := delivered_exactly_once w h j s hj
  rwa [List.map_congr_left hq, List.map_congr_left hexp, List.map_id', List.map_id'] at h1

/-- hence, in a world where every sender used the library or kept to the declared maximum, what is
reported is exactly what was sent -/
theorem delivered_exactly_once_unmodified (w : World) (h : Reachable w) (j : Nat) (s : Sock)
    (hj : w.socks[j]? = some s) (hsmall : ∀ r ∈ w.log, r.data.length ≤ maxLen) :
    s.events.map evDgram ++ s.queue = expected w.log j s.kind :=
  delivered_unmodified_of_foreign_small w h j s hj fun r hr _ _ => hsmall r hr

/-- after a readiness event has been processed nothing is left behind: everything sent has been reported -/
theorem after_poll_everything_reported (w : World) (h : Reachable w) (j : Nat) (s : Sock)
    (hj : (poll w j).socks[j]? = some s) :
    s.events.map evDgram = (expected w.log j s.kind).map (cutK s.kind) ∧ s.queue = [] := by
  have hs := (inv_poll (reachable_inv w h) j).socks j s hj
  have hq : s.queue = [] := by
    obtain ⟨s0, _, rfl⟩ := Option.map_eq_some_iff.mp ((List.getElem?_modify ..).symm.trans hj)
    rw [if_pos rfl]
  have h1 := hs.split
  rw [hq, List.map_nil, List.append_nil, hs.exp] at h1
  exact ⟨h1, hq⟩

/-- **Attribution.**  An event reported by resource `j` carries `j` as its resource id, and its endpoint
address is the address of a socket that exists and that made a successful send call to `j` with exactly
this payload (as read into the receiver's buffer: the identity up to the declared maximum, see above). -/
theorem event_attributed_to_its_sender (w : World) (h : Reachable w) (j : Nat) (s : Sock)
    (hj : w.socks[j]? = some s) (e : Ev) (he : e ∈ s.events) :
    e.ep.rid = j ∧ e.ep.addr < w.socks.length ∧
    ∃ r ∈ w.log, r.dst = j ∧ r.src = e.ep.addr ∧ (cutK s.kind ⟨r.src, r.data⟩).data = e.data ∧
      r.status = .sent := by
  have hs := (reachable_inv w h).socks j s hj
  obtain ⟨d, hd, hde⟩ := hs.event he
  obtain ⟨r, hr, hf, rfl⟩ := mem_expected.mp (hs.exp ▸ hd)
  obtain ⟨hdst, hst, _, _⟩ := feeds_iff.mp hf
  have hsrc : r.src = e.ep.addr := (cutK_src ..).symm.trans (congrArg Dgram.src hde)
  exact ⟨hs.rid e he, hsrc ▸ hs.srcs _ hd, r, hr, hdst, hsrc, congrArg Dgram.data hde, hst⟩

/-- a connected socket reports every datagram under its own endpoint `(id, peer address)` -/
theorem connected_reports_peer (w : World) (h : Reachable w) (j p : Nat) (s : Sock)
    (hj : w.socks[j]? = some s) (hk : s.kind = .connected p) (e : Ev) (he : e ∈ s.events) :
    e.ep = ⟨j, p⟩ := by
  have hs := (reachable_inv w h).socks j s hj
  obtain ⟨d, hd, hde⟩ := hs.event he
  have h1 : e.ep.addr = p := (congrArg Dgram.src hde).symm.trans ((cutK_src ..).trans (hs.peer p hk d hd))
  have h2 : e.ep.rid = j := hs.rid e he
  cases e with
  | mk ep data => cases ep; cases h1; cases h2; rfl

/-- **Reply path.**  Sending from listener `j` to the address `a` (the endpoint reported in an event, or
one built with `from_listener`) hands the kernel a datagram from `j` for the socket bound at `a`: if
that socket takes datagrams from `j`, exactly this datagram is appended to its queue. -/
theorem reply_reaches_address (w : World) (hkm : maxLen ≤ w.kmax) (j a : Nat) (s t : Sock) (data : Bytes)
    (hj : w.socks[j]? = some s) (hk : s.kind = .listener) (ha : w.socks[a]? = some t)
    (hal : t.alive = true) (hacc : kAccepts t.kind j = true) (hlen : data.length ≤ maxLen) :
    (send w ⟨j, a⟩ data).2 = .sent ∧
    ∃ t', (send w ⟨j, a⟩ data).1.socks[a]? = some t' ∧ t'.kind = t.kind ∧
      t'.queue = t.queue ++ [⟨j, data⟩] ∧ t'.events = t.events := by
  rw [send_eq (ep := ⟨j, a⟩) data hj (Or.inl ⟨hk, rfl⟩) fun h => Nat.le_trans h hkm,
    if_neg (Nat.not_lt.mpr hlen), if_neg fun h => h.1 hk, if_pos (Or.inl hk)]
  simp [record, getElem?_enqueue, ha, hal, hacc]

/-- the endpoint of an event is a valid reply address: the sender's socket exists -/
theorem reported_endpoint_is_replyable (w : World) (h : Reachable w) (j : Nat) (s : Sock)
    (hj : w.socks[j]? = some s) (e : Ev) (he : e ∈ s.events) :
    ∃ t, w.socks[e.ep.addr]? = some t := by
  have := (event_attributed_to_its_sender w h j s hj e he).2.1
  exact ⟨w.socks[e.ep.addr], List.getElem?_eq_getElem this⟩

/-- `from_listener` yields exactly the endpoint the driver itself builds, and only for listeners -/
theorem from_listener_spec (w : World) (id addr : Nat) (ep : Endpoint) :
    fromListener w id addr = some ep ↔ (∃ s, w.socks[id]? = some s ∧ s.kind = .listener) ∧ ep = ⟨id, addr⟩ := by
  unfold fromListener
  cases hs : w.socks[id]? with
  | none => simp
  | some s =>
    by_cases hk : s.kind = .listener
    · simp [hk, eq_comm]
    · simp [hk]

/-- **Sizes.**  A send on a library socket is refused with `MaxPacketSizeExceeded` exactly above the
declared maximum, and then nothing is transmitted; at or below it (zero included) it is `Sent` — except
that a connected socket with a pending ICMP error (an earlier datagram bounced off an absent peer)
answers `ResourceNotFound` once, for a datagram the kernel did not take. -/
theorem size_status (w : World) (hkm : maxLen ≤ w.kmax) (ep : Endpoint) (s : Sock) (data : Bytes)
    (hs : w.socks[ep.rid]? = some s) (hk : s.kind ≠ .raw) :
    ((send w ep data).2 = .maxPacketSizeExceeded ↔ data.length > maxLen) ∧
    ((send w ep data).2 = .sent ↔ data.length ≤ maxLen ∧ ¬ ((∃ p, s.kind = .connected p) ∧ s.err = true)) ∧
    (data.length > maxLen → (send w ep data).1.socks = w.socks) := by
  obtain ⟨dst, hd⟩ := lib_dst ep hk
  have hc : s.kind ≠ .listener ↔ ∃ p, s.kind = .connected p := by
    rcases hd with ⟨hd, _⟩ | hd <;> simp [hd]
  rw [send_eq data hs hd fun h => Nat.le_trans h hkm]
  split
  · next hl => simp [record, hl, Nat.not_le.mpr hl]
  · next hl =>
    split
    · next he => simp [record, hl, ← hc, he]
    · next he => simp [record, hl, Nat.not_lt.mp hl, ← hc, he]

/-- **`Sent` is truthful.**  A send that answers `ResourceNotFound` because of a pending ICMP error hands
nothing to anybody: every queue is as before (only the error flag of the sender is cleared). -/
theorem refused_send_transmits_nothing (w : World) (ep : Endpoint) (s : Sock) (p : Nat) (data : Bytes)
    (hs : w.socks[ep.rid]? = some s) (hk : s.kind = .connected p) (he : s.err = true)
    (hl : data.length ≤ w.kmax) (hl' : data.length ≤ maxLen) :
    (send w ep data).2 = .resourceNotFound ∧
    ∀ j : Nat, ((send w ep data).1.socks[j]?).map Sock.queue = (w.socks[j]?).map Sock.queue := by
  rw [send_eq data hs (Or.inr hk) fun _ => hl, if_neg (Nat.not_lt.mpr hl'), if_pos ⟨by rw [hk]; nofun, he⟩]
  refine ⟨rfl, fun j => ?_⟩
  show ((w.socks.modify ep.rid _)[j]?).map _ = _
  rw [List.getElem?_modify]
  cases w.socks[j]? with
  | none => rfl
  | some t => by_cases hj : ep.rid = j <;> simp [hj]

/-- … and a datagram sent (status `Sent`) from a connected socket to its peer, when a socket is bound
there and takes datagrams from it, is in that socket's queue -/
theorem sent_from_connected_is_queued (w : World) (ep : Endpoint) (s t : Sock) (p : Nat) (data : Bytes)
    (hs : w.socks[ep.rid]? = some s) (hk : s.kind = .connected p) (he : s.err = false)
    (ht : w.socks[p]? = some t) (hal : t.alive = true) (hacc : kAccepts t.kind ep.rid = true)
    (hl : data.length ≤ w.kmax) (hl' : data.length ≤ maxLen) :
    (send w ep data).2 = .sent ∧
    ∃ t', (send w ep data).1.socks[p]? = some t' ∧ t'.queue = t.queue ++ [⟨ep.rid, data⟩] := by
  rw [send_eq data hs (Or.inr hk) fun _ => hl, if_neg (Nat.not_lt.mpr hl'),
    if_neg fun h => Bool.false_ne_true (he.symm.trans h.2), if_pos (Or.inr ((deliverable_eq ht).trans hal))]
  simp [record, getElem?_enqueue, ht, hal, hacc]

/-- the declared maximum is what `Transport::Udp.max_message_size()` answers (regenerated table) -/
theorem declared_maximum :
    (Mio.Generated.transports.find? (fun r => r.name = "Udp")).map (·.maxMessageSize) = some maxLen := by
  decide

/-- the receive buffer holds every datagram up to the declared maximum, and every IPv4 datagram -/
theorem buffer_holds_any_datagram : maxLen ≤ bufLen ∧ kMax4 ≤ bufLen := by decide

/-- the hypothesis `maxLen ≤ w.kmax` of `reply_reaches_address` and `size_status` holds in every reachable
world (both address families) -/
theorem kernel_admits_declared_maximum (w : World) (h : Reachable w) : maxLen ≤ w.kmax :=
  (reachable_inv w h).kmaxGe

/-! Non-vacuity: a listener (0), two foreign senders (1, 2) and a connected library socket (3 → 0).
Sender 1 sends `[7]` and the empty datagram, sender 2 sends `[9]`, socket 3 sends `[5]`; after the
readiness event the listener has reported the four datagrams with their sources; it replies to the
address of the last event and socket 3 reports the reply under its own endpoint. -/
def exActs : List Act :=
  [.openListener, .openRaw, .openRaw, .openConnected 0,
   .rawSend 1 0 [7], .rawSend 2 0 [9], .rawSend 1 0 [], .send ⟨3, 99⟩ [5], .poll 0,
   .send ⟨0, 3⟩ [1, 2], .rawSend 1 3 [8], .poll 3]

example : ((run (init false) exActs).socks.map (·.events)) =
    [[⟨⟨0, 1⟩, [7]⟩, ⟨⟨0, 2⟩, [9]⟩, ⟨⟨0, 1⟩, []⟩, ⟨⟨0, 3⟩, [5]⟩], [], [], [⟨⟨3, 0⟩, [1, 2]⟩]] := by
  decide

end Mio.C12
