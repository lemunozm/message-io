import MioModel.Lemmas.EventQueueConc
/-! # C16 — A blocked receiver is woken by every kind of send -/
namespace Mio.C16
open Mio.EvQ
variable {E : Type}

/-- something can be handed out right now -/
def Deliverable (s : St E) : Prop :=
  s.q.prio ≠ [] ∨ s.q.plain ≠ [] ∨ ∃ p ∈ live s.q, p.1.deadline ≤ s.now

theorem not_deliverable {s : St E} (hs : Sorted (live s.q)) (hn : nothingReady s.q s.now = true) :
    ¬ Deliverable s := by
  obtain ⟨hpl, hpr, _, hne⟩ := (nothingReady_iff _ _).mp hn
  exact no_work hs hpr hpl hne

/-- In no reachable state is the receiver blocked in its `select!` while an event is deliverable
(a queued plain or priority event; a scheduled, uncancelled timer whose deadline has passed — whether
it already sits in the map or is still a queued command) and none of the sources it watches is
ready: one of the non-timeout wake-ups is enabled. -/
theorem no_stuck_with_work (s : St E) (h : Reachable s) (kd : Kind) (dl : Option Nat)
    (hrx : s.rx = .blocked kd dl) (hw : Deliverable s) :
    ∃ src s', src ≠ Src.timeout ∧ step s (.wake src) = some s' := by
  have hnr : ¬ (nothingReady s.q s.now = true) := fun hn => not_deliverable (reachable_tinv s h).srt hn hw
  rw [nothingReady_iff] at hnr
  cases hq : s.q.plain with
  | cons x xs => exact ⟨.plain, _, by decide, by simp only [step, hrx, hq]; rfl⟩
  | nil =>
    cases hp : s.q.prio with
    | cons p ps => exact ⟨.prio, _, by decide, by simp only [step, hrx, hp]; rfl⟩
    | nil =>
      cases hc : s.q.cmds with
      | cons c cs => exact ⟨.cmd, _, by decide, by simp only [step, hrx, hc]; rfl⟩
      | nil =>
        rcases due_or_noneDue s.now s.q with ⟨k, e, ts, hl, hd⟩ | hne
        · have ht : s.q.timers = (k, e) :: ts := by rw [← hl, live, hc]; rfl
          exact ⟨.timer, _, by decide, by simp only [step, hrx, ht, if_pos hd]; rfl⟩
        · exact absurd ⟨hq, hp, hc, hne⟩ hnr

/-- `receive_timeout` reports nothing only when its deadline has passed and nothing at all is
deliverable at that moment. -/
theorem timeout_none_sound (s s' : St E) (h : Reachable s) (hstep : step s (.wake .timeout) = some s') :
    (∃ kd t, s.rx = .blocked kd (some t) ∧ t ≤ s.now) ∧ ¬ Deliverable s := by
  cases Step.of_step hstep with
  | timeout kd t hrx ht hnr => exact ⟨⟨kd, t, hrx, ht⟩, not_deliverable (reachable_tinv s h).srt hnr⟩

/-- the deadline of a `receive_timeout(d)` call is `start + d` … -/
theorem call_sets_deadline (s s' : St E) (d : Nat) (h : step s (.call .recvTimeout d) = some s') :
    s'.rx = .started .recvTimeout (some (s.now + d)) := by
  cases Step.of_step h with
  | call k d hrx => rfl

/-- outer `none`: no call in progress; inner `none`: a call without timeout -/
def rxDeadline : Rx → Option (Option Nat)
  | .idle => none
  | .started _ dl => some dl
  | .clockRead _ dl _ => some dl
  | .blocked _ dl => some dl

/-- … and no step changes it while the call is in progress: together with `timeout_none_sound`, a
`receive_timeout(d)` started at `t0` reports nothing only at a time `≥ t0 + d`. -/
theorem deadline_stable (s s' : St E) (a : Act E) (h : step s a = some s') (dl dl' : Option Nat)
    (h1 : rxDeadline s.rx = some dl) (h2 : rxDeadline s'.rx = some dl') : dl = dl' := by
  cases Step.of_step h with
  | send | sendPrio | sendTimer | cancel | tick => exact Option.some.inj (h1.symm.trans h2)
  | call k d hrx => rw [hrx] at h1; cases h1
  | readClock | block | wakeCmd | wakeTimer => rw [‹s.rx = _›] at h1; cases h1; cases h2; rfl
  | pickPrio | pickTimer | pickPlain | pickNone | wakePlain | wakePrio | timeout => cases h2

/-! Non-vacuity: the as-found F10 history on the current model — a timer scheduled by another thread
while the receiver is blocked in `receive()` wakes it (through the command channel) and is delivered
at its deadline without any other traffic. -/
example : ∃ s : St Nat, run {} [.call .recv 0, .readClock, .foldPick, .tick 100, .sendTimer 10 7, .wake .cmd,
    .readClock, .foldPick, .tick 10, .wake .timer, .readClock, .foldPick] = some s ∧
    s.returned.map (·.2) = [110] ∧ retKeys s = [⟨110, 0⟩] := ⟨_, rfl, by decide, by decide⟩

end Mio.C16
