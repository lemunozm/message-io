import MioModel.Lemmas.Decoder
import MioModel.Lemmas.SendLoop
import MioModel.Lemmas.Stream
/-! # C01 — Packet transports deliver every message intact, in order, exactly once

FramedTcp: the send loop (prefix/payload switch), the receive loop, the decoder (C02), over any number
of poll events.  WebSocket: the adapter's loop around an ideal message codec with read-ahead
(tungstenite is an assumption, DESIGN §5). -/
namespace Mio.C01
open Mio Mio.Stream Mio.Generated

/-- `send` returning `Sent` put exactly one frame — canonical prefix, then the payload — on the
wire, for every pattern of partial writes and `WouldBlock`s (the prefix/payload switch driven by
`total_bytes_sent` never skips or repeats a byte); whatever the outcome, what was written is a
prefix of that frame. -/
theorem framedSend_wire (data : Bytes) (sched : List WAns) :
    (framedSend data sched).wire <+: frame data ∧
    ((framedSend data sched).status = some .sent → (framedSend data sched).wire = frame data) :=
  Stream.framedSend_wire data sched

/-- a sequence of successful sends puts the concatenation of the frames on the wire -/
theorem framed_sends_wire (sends : List (Bytes × List WAns))
    (hs : ∀ s ∈ sends, (framedSend s.1 s.2).status = some .sent) :
    (sends.map fun s => (framedSend s.1 s.2).wire).flatten = frames (sends.map (·.1)) :=
  framedSend_wires id sends hs

/-- an edge-triggered read event is never left half-consumed -/
theorem framedReceive_drains (dec rx : Bytes) (fin : Bool) (sched : List RAns)
    (hl : LegalR tcpInputBufferSize rx fin sched)
    (h : (framedReceive dec rx sched).status = some .waitNextEvent) : (framedReceive dec rx sched).rx = [] :=
  recv_drains _ sched dec rx fin hl h

/-- End to end.  For every message list (lengths below 2^64), if the bytes that arrive over any
number of poll events — in whatever segmentation — are the frames of those messages, every read
schedule is legal and the connection stays up, then the `Message` callbacks are exactly the
messages, in order, one each; the decoder holds nothing, nothing readable is left, and nothing
panicked. -/
theorem framed_end_to_end (ms : List Bytes) (hms : ∀ m ∈ ms, m.length < 2 ^ 64) (evs : List PollEv)
    (harr : (evs.map (·.arrived)).flatten = frames ms)
    (hl : LegalSession tcpInputBufferSize (fun st ch => decode st ch) { st := [] } evs) :
    let f := session tcpInputBufferSize (fun st ch => decode st ch) { st := [] } evs
    f.outs = ms ∧ f.st = [] ∧ f.rx = [] ∧ f.panicked = false := by
  obtain ⟨h1, h2, chunks, outs, h3, h4, h5⟩ := session_spec tcpInputBufferSize evs { st := [] } hl rfl
  rw [← feed_eq_feedWith, feed_chunking_independent ms hms chunks (by rw [h3, harr])] at h5
  rw [Option.some.injEq, Prod.mk.injEq] at h5
  exact ⟨by rw [h4, ← h5.2]; rfl, h5.1.symm, h1, h2⟩

/-- sender and receiver together: whatever the partial-write pattern of each `send` that returned
`Sent` and whatever the segmentation and read pattern on the other side, the receiver observes the
payloads passed to `send`, same bytes, same boundaries, same order. -/
theorem framed_send_receive (sends : List (Bytes × List WAns))
    (hs : ∀ s ∈ sends, (framedSend s.1 s.2).status = some .sent)
    (hlen : ∀ s ∈ sends, s.1.length < 2 ^ 64) (evs : List PollEv)
    (harr : (evs.map (·.arrived)).flatten = (sends.map fun s => (framedSend s.1 s.2).wire).flatten)
    (hl : LegalSession tcpInputBufferSize (fun st ch => decode st ch) { st := [] } evs) :
    (session tcpInputBufferSize (fun st ch => decode st ch) { st := [] } evs).outs = sends.map (·.1) :=
  (framed_end_to_end (sends.map (·.1)) (List.forall_mem_map.2 hlen) evs
    (by rw [harr, framed_sends_wire sends hs]) hl).1

/-! ## WebSocket -/

/-- the receive loop loses, duplicates and reorders nothing, for every schedule -/
theorem ws_no_loss (c : WsConn) (sched : List WsAns) (fuel : Nat) :
    (wsReceive c sched fuel).outs ++ binaries ((wsReceive c sched fuel).conn.buf ++ (wsReceive c sched fuel).conn.sock)
      = binaries (c.buf ++ c.sock) := wsReceive_order fuel c sched

/-- `WaitNextEvent` means nothing deliverable is left — neither on the socket nor in the codec's
read-ahead buffer — so no message waits for traffic that may never come.  (`LegalWs` reads `sock` only.) -/
theorem wsReceive_drains (c : WsConn) (sched : List WsAns) (fuel : Nat)
    (hl : LegalWs { c with buf := [] } sched)
    (h : (wsReceive c sched fuel).status = some .waitNextEvent) :
    (wsReceive c sched fuel).conn.sock = [] ∧ (wsReceive c sched fuel).conn.buf = [] :=
  Stream.wsReceive_drains fuel c sched hl h

/-- hence every event that ends with `WaitNextEvent` has delivered everything that had arrived -/
theorem ws_event_delivers_all (arrived : List WsMsg) (sched : List WsAns) (fuel : Nat)
    (hl : LegalWs { sock := arrived, buf := [] } sched)
    (h : (wsReceive { sock := arrived, buf := [] } sched fuel).status = some .waitNextEvent) :
    (wsReceive { sock := arrived, buf := [] } sched fuel).outs = binaries arrived := by
  have h1 := ws_no_loss { sock := arrived, buf := [] } sched fuel
  obtain ⟨h2, h3⟩ := wsReceive_drains { sock := arrived, buf := [] } sched fuel hl h
  rw [h2, h3] at h1
  simpa [binaries] using h1

/-- in particular a Binary message that arrives in the same read as a Ping, Pong or Text message in
front of it is delivered by that very event: control messages do not end the loop -/
theorem ws_control_frames_do_not_stall (data : Bytes) (pre : List WsMsg) (sched : List WsAns) (fuel : Nat)
    (hl : LegalWs { sock := pre ++ [some data], buf := [] } sched)
    (h : (wsReceive { sock := pre ++ [some data], buf := [] } sched fuel).status = some .waitNextEvent) :
    data ∈ (wsReceive { sock := pre ++ [some data], buf := [] } sched fuel).outs := by
  rw [ws_event_delivers_all _ sched fuel hl h]
  simp [binaries]

/-- `send`: `Sent` means exactly one message was handed to the transport and it was within the
declared maximum; a payload above the maximum transmits nothing. -/
theorem wsSend_one_message (data : Bytes) (flushOk : Bool) :
    ((wsSend data flushOk).1 = .sent → (wsSend data flushOk).2 = [data] ∧ data.length ≤ wsMaxPayloadLen) ∧
    (data.length > wsMaxPayloadLen ↔ (wsSend data flushOk).1 = .maxPacketSizeExceeded) ∧
    ((wsSend data flushOk).1 ≠ .sent → (wsSend data flushOk).2 = []) := by
  unfold wsSend
  by_cases h : data.length > wsMaxPayloadLen
  · simp [h]
  · cases flushOk <;> simp [h] <;> omega

/-! Non-vacuity: three messages of lengths 0, 127, 128 written as one burst, the 128-byte message's
two-byte prefix `80 01` cut between two poll events, the first event read one byte at a time at the end. -/
def exMs : List Bytes := [[], List.replicate 127 7, List.replicate 128 9]
def exEvs : List PollEv :=
  [{ arrived := [0x00, 0x7f] ++ List.replicate 127 7 ++ [0x80],
     sched := [.take 1, .take 127, .interrupted, .take 1, .take 1, .wouldBlock] },
   { arrived := [0x01] ++ List.replicate 128 9, sched := [.take 200, .wouldBlock] }]
example : (session tcpInputBufferSize (fun st ch => decode st ch) { st := [] } exEvs).outs = exMs := by
  decide +kernel
/-- three WebSocket messages read ahead by the codec in one socket access: all three are delivered
by the same event (the as-found loop stopped after the first: `MioModel/AsFound/Stream.lean`) -/
example : (wsReceive { sock := [some [1], none, some [2], some [3]], buf := [] } [.fill 4, .wouldBlock] 10).outs = [[1], [2], [3]] := by
  decide

end Mio.C01
