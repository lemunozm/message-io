import MioModel.ResourceId
import MioModel.Lemmas.Basic
/-! The bit layout of M6 as a mixed-radix number: `raw = adapter + 128 * (type + 2 * base)`. -/
namespace Mio.Rid
open Mio.Generated

theorem add_mul_mod_div {a n : Nat} (h : a < n) (b : Nat) : (a + n * b) % n = a ∧ (a + n * b) / n = b :=
  ⟨by rw [Nat.add_mul_mod_self_left, Nat.mod_eq_of_lt h],
   by rw [Nat.add_mul_div_left _ _ (Nat.zero_lt_of_lt h), Nat.div_eq_of_lt h, Nat.zero_add]⟩

/-- `tbit_lt`, stated before `tbit` has its name -/
theorem tnum_lt (t : RType) : (match t with | .local => 1 | .remote => 0 : Nat) < 2 := by
  cases t <;> simp

def tbit : RType → Nat
  | .local => 1
  | .remote => 0

theorem tbit_lt (t : RType) : tbit t < 2 := tnum_lt t

theorem tbit_inj {t t' : RType} (h : tbit t = tbit t') : t = t' := by
  cases t <;> cases t' <;> first | rfl | cases h

/-- `mk` on its domain: adapter in bits 0–6, type in bit 7, base value from bit 8 -/
theorem mk_eq {a b : Nat} (t : RType) (ha : a ≤ maxAdapterId) (hb : b ≤ maxBaseValue) :
    mk a t b = some (a + 128 * (tbit t + 2 * b)) := by
  have ha' : a < 2 ^ 7 := Nat.lt_succ_of_le ha
  have hb' : b * 2 ^ 8 < 2 ^ 64 := Nat.mul_lt_mul_of_pos_right (k := 2 ^ 8) (Nat.lt_succ_of_le hb) (by decide)
  have h0 : mk a t b = some (a ||| tbit t <<< 7 ||| b <<< 8 % 2 ^ 64) := by
    unfold mk
    rw [if_neg (Nat.not_lt.mpr ha), if_neg (Nat.not_lt.mpr hb)]
    cases t <;> rfl
  -- the shift by 8 drops nothing; then bit 7 and the bits above it are one field over bit 7
  rw [h0, Nat.shiftLeft_eq b, Nat.mod_eq_of_lt hb', ← Nat.shiftLeft_eq, Nat.or_assoc,
    show b <<< 8 = b <<< 1 <<< 7 from Nat.shiftLeft_add b 1 7, ← Nat.shiftLeft_or_distrib,
    or_shiftLeft (i := 1) (tbit_lt t), or_shiftLeft ha']

theorem adapterId_eq (raw : Nat) : adapterId raw = raw % 128 := by
  have h : raw % 128 < 256 := Nat.lt_trans (Nat.mod_lt _ (by decide)) (by decide)
  unfold adapterId adapterIdMask adapterIdPos
  rw [Nat.shiftRight_zero, Nat.and_two_pow_sub_one_eq_mod raw 7, Nat.mod_eq_of_lt h]

theorem tbit_resourceType (raw : Nat) : tbit (resourceType raw) = raw / 128 % 2 := by
  unfold resourceType resourceTypePos
  rw [Nat.one_shiftLeft, and_two_pow]
  rcases Nat.mod_two_eq_zero_or_one (raw / 2 ^ 7) with h | h <;> rw [h] <;> rfl

theorem baseValue_eq {raw : Nat} (h : raw < 2 ^ 64) : baseValue raw = raw / 256 := by
  have h' : raw / 2 ^ 8 < 2 ^ 56 := Nat.div_lt_of_lt_mul h
  unfold baseValue baseValueMask baseValuePos
  rw [Nat.shiftRight_and_distrib, Nat.shiftRight_eq_div_pow,
    show 0xFFFFFFFFFFFFFF00 >>> 8 = 2 ^ 56 - 1 from by decide, Nat.and_two_pow_sub_one_eq_mod, Nat.mod_eq_of_lt h']

theorem toToken_eq {raw : Nat} (h : raw < 2 ^ 63) : toToken raw = 2 * raw + 1 := by
  have h' : raw * 2 ^ 1 < 2 ^ 64 := Nat.mul_lt_mul_of_pos_right (k := 2 ^ 1) h (by decide)
  unfold toToken
  rw [Nat.shiftLeft_eq, Nat.mod_eq_of_lt h', ← Nat.shiftLeft_eq, Nat.or_comm, or_shiftLeft (by decide),
    Nat.add_comm]

theorem ofToken_eq (t : Nat) : ofToken t = t / 2 := Nat.shiftRight_eq_div_pow t 1

end Mio.Rid
