import MioModel.Lemmas.NodeOrder
import MioModel.Lemmas.Handover
/-! # C15 — Events that happen before for_each() are kept, in order, and delivered first

Network events are numbered in the order the processor produces them: the `c` events cached between
node creation and the listener call are `0 … c-1`, the live ones follow. -/
namespace Mio.C15
open Mio.Node

/-- In every reachable state, in every mode and for every hand-over instant (any `c`), the network
events handed to the callback so far are exactly `0, 1, …, k-1` for some `k`: none skipped, none
repeated, none reordered. -/
theorem cache_order (mode : Mode) (c : Nat) (s : St) (h : Reachable mode c s) :
    netLog s = List.range (netLog s).length :=
  (reachable_oinv mode c s h).ranges.1

/-- cached events are delivered before any live one -/
theorem cached_before_live (mode : Mode) (c : Nat) (s : St) (h : Reachable mode c s) (i j : Nat)
    (hi : i < (netLog s).length) (hj : j < (netLog s).length) (hc : (netLog s)[i] < c)
    (hl : c ≤ (netLog s)[j]) : i < j := by
  have e : ∀ k (hk : k < (netLog s).length), (netLog s)[k] = k := fun k hk =>
    (List.getElem_of_eq (cache_order mode c s h) hk).trans (List.getElem_range _)
  rw [e i hi] at hc; rw [e j hj] at hl
  omega

/-- while the node is running nothing is dropped: what has been delivered plus what is still in the
pipeline (held by the network thread, cached, polled) is everything produced so far -/
theorem nothing_dropped_while_running (mode : Mode) (c : Nat) (s : St) (h : Reachable mode c s)
    (hr : s.running = true) : (netLog s).length + (upcoming s).length = s.nextLive :=
  (reachable_oinv mode c s h).ranges.2.2 hr

/-- the pipeline itself is in production order and contiguous -/
theorem pipeline_in_order (mode : Mode) (c : Nat) (s : St) (h : Reachable mode c s) :
    upcoming s = List.range' (s.nextLive - (upcoming s).length) (upcoming s).length :=
  (reachable_oinv mode c s h).ranges.2.1

/-! Non-vacuity: two cached events, then a live one, asynchronous mode with a signal in between. -/
example : ∃ s, run (init .async 2) [.start, .callerRelease, .net 0, .net 0, .net 0, .net 0, .net 0,
    .sig true, .sig true, .net 0, .net 0, .net 0, .net 0, .net 0, .net 0, .net 0, .net 1, .net 0, .net 0, .net 0] = some s ∧
    netLog s = [0, 1, 2] := ⟨_, rfl, rfl⟩

/-! ## The hand-over itself (model M4h, `MioModel/Handover.lean`)

The theorems above start from "`c` events are in the cache".  These say how the cache gets there: the
caching thread, the listener call and the network at any interleaving. -/
section handover
open Mio.Handover

/-- at every moment of the hand-over — before, during and after the listener call, for any amount of
activity — the cached events followed by those still waiting in the poller are all the events that
occurred, in the order they occurred -/
theorem handover_keeps_everything_in_order (s : Handover.St) (h : Handover.Reachable s) :
    s.cache ++ s.pending = List.range s.next :=
  (Handover.reachable_inv s h).all

/-- what the listener call receives from `join()` is exactly the cache of the finished caching thread:
the events `0 … c-1` for `c` its length, the later ones still waiting in the poller it took over — the
initial state `Node.init mode c` of the delivery model, whose cache is this list -/
theorem handover_gives_the_cached_prefix (s : Handover.St) (h : Handover.Reachable s) (c : List Nat)
    (ht : s.taken = some c) (mode : Mode) :
    c = List.range c.length ∧ s.pending = List.range' c.length (s.next - c.length) ∧
    (Node.init mode c.length).cache = c := by
  have hi := Handover.reachable_inv s h
  obtain ⟨h1, h2, hlen⟩ := range_split ((hi.taken c ht).1 ▸ hi.all)
  exact ⟨h1, by rw [h2, ← hlen, Nat.add_sub_cancel_left], h1.symm⟩

/-- **bounded for any traffic**: once the listener call has cleared the flag, the caching thread takes at
most two more steps (the poll it may be in, then the look at the flag) in every schedule, however many
events arrive in between -/
theorem handover_bounded_for_any_traffic (s s' : Handover.St) (acts : List Handover.Act)
    (hf : s.flag = false) (hr : Handover.run s acts = some s') : acts.count .cache ≤ 2 := by
  have := Handover.run_remaining acts s s' hf hr
  have : remaining s ≤ 2 := by unfold remaining; split <;> omega
  omega

/-- … and no schedule blocks: while the listener call waits in `join()`, either the caching thread can
step or `join()` returns -/
theorem handover_no_deadlock (s : Handover.St) (hl : s.lpc = .cleared) :
    (∃ s', Handover.step s .cache = some s') ∨ (∃ s', Handover.step s .join = some s') := by
  cases hc : s.cpc with
  | check | poll => exact .inl (by simp [Handover.step, hc])
  | done => exact .inr (by simp [Handover.step, hc, hl])

/-- the contrast (a caching thread that polls again whenever a poll was answered): for every `n` there is
a schedule in which it takes `n` steps after the flag was cleared and is still polling — with steady
traffic the listener call never gets the poller -/
theorem until_timeout_variant_can_starve (n : Nat) (s : Handover.St) (hp : s.cpc = .poll) :
    ∃ acts s', acts.count .cache = n ∧ Handover.runUntil s acts = some s' ∧ s'.cpc = .poll ∧
      s'.flag = s.flag := by
  induction n generalizing s with
  | zero => exact ⟨[], s, rfl, rfl, hp, rfl⟩
  | succ n ih =>
    let s1 : Handover.St := { s with pending := s.pending ++ [s.next], next := s.next + 1 }
    let s2 : Handover.St := { s1 with cache := s1.cache ++ s1.pending, pending := [] }
    obtain ⟨acts, s', h1, h2, h3, h4⟩ := ih s2 hp
    refine ⟨.arrive :: .cache :: acts, s', ?_, ?_, h3, h4⟩
    · simp [h1]
    · have e1 : Handover.stepUntil s .arrive = some s1 := rfl
      have e2 : Handover.stepUntil s1 .cache = some s2 := by
        simp [Handover.stepUntil, s1, s2, hp]
      simp only [Handover.runUntil, e1, e2, h2]

/-! Non-vacuity: two events occur, the caching thread polls them, a third occurs, the listener call is
made while the thread is inside a poll; a fourth arrives; the thread finishes its poll, sees the flag,
returns; `join()` hands over `[0, 1, 2, 3]`… -/
example : ∃ s, Handover.run {} [.arrive, .arrive, .cache, .cache, .arrive, .cache, .call, .arrive, .cache,
    .cache, .join, .arrive] = some s ∧ s.taken = some [0, 1, 2, 3] ∧ s.pending = [4] := ⟨_, rfl, rfl, rfl⟩

end handover

end Mio.C15
