import MioModel.Lemmas.Node
/-! # C05 — The event callback is never run by two threads at once

Model M4 (`MioModel/Node.lean`), all three listener modes (`enqueue` is `for_each_async` with a
forwarding callback), any number of `stop()` calls from anywhere, every interleaving. -/
namespace Mio.C05
open Mio.Node

/-- In every reachable state at most one thread is inside the callback: a thread in the callback
holds the callback lock — except during the synchronous replay of `for_each`, when the other thread
does not exist yet. -/
theorem callback_mutex (mode : Mode) (c : Nat) (s : St) (h : Reachable mode c s) :
    ¬ (inCallback s.pcN = true ∧ inCallback s.pcS = true) :=
  fun ⟨hn, hs⟩ => (reachable_minv mode c s h).exclusive (.inl hn) (.inl hs)

/-- a thread inside the callback holds the lock (or is alone) -/
theorem in_callback_holds_lock (mode : Mode) (c : Nat) (s : St) (h : Reachable mode c s) :
    (inCallback s.pcS = true → s.lock = some .sig) ∧
    (inCallback s.pcN = true → s.lock = some .net ∨ (s.mode = .sync ∧ s.pcS = .notStarted)) := by
  have hm := reachable_minv mode c s h
  refine ⟨fun hs => hm.lockS.2 (crit_sig hm.sigOk (.inl hs)), fun hn => ?_⟩
  exact (crit_net (.inl hn)).imp hm.lockN.2 fun ⟨hmo, hr⟩ => ⟨hmo, hm.syncReplay hmo hr⟩

/-- Invocations are bracketed: whenever a step appends an invocation to the log, nobody is inside
the callback at that moment — each invocation finishes before the next one begins. -/
theorem enter_requires_free (mode : Mode) (c : Nat) (s s' : St) (a : Act) (h : Reachable mode c s)
    (hs : step s a = some s') (hlog : s'.log.length = s.log.length + 1) :
    inCallback s.pcN = false ∧ inCallback s.pcS = false := by
  have hm := reachable_minv mode c s h
  -- the thread that appends is past its test, hence not inside; and the two critical sections exclude each other
  have free {pc pc' : Pc} (hc : isChecked pc = true)
      (hx : inCallback pc' = true → False) : inCallback pc = false ∧ inCallback pc' = false :=
    ⟨Bool.eq_false_iff.mpr (inCallback_not_checked · hc), Bool.eq_false_iff.mpr hx⟩
  have same : s'.log = s.log → False := fun e => Nat.succ_ne_self _ ((e ▸ hlog).symm)
  cases Step.of_step hs with
  | net hs =>
    obtain ⟨hc, _⟩ := hs.log.resolve_left same
    exact free hc fun hS => hm.exclusive (.inr hc) (.inl hS)
  | sig hs =>
    obtain ⟨hc, _⟩ := hs.log.resolve_left same
    exact (free hc fun hN => hm.exclusive (.inl hN) (.inr hc)).symm
  | _ => exact (same rfl).elim

/-! Non-vacuity: a network event and a signal contend for the callback; the signal thread waits for
the lock while the network thread is inside. -/
example : ∃ s, run (init .async 0) [.start, .callerRelease, .net 0, .net 0, .net 1, .net 0, .net 0, .net 0,
    .sig true, .sig true] = some s ∧ s.pcN = .inCb (.net 0) ∧ s.pcS = .want (.sig 0) ∧ s.lock = some .net :=
  ⟨_, rfl, rfl, rfl, rfl⟩
example : step { (init .async 0) with pcN := .inCb (.net 0), pcS := .want (.sig 0), lock := some .net } (.sig true) = none := rfl

end Mio.C05
