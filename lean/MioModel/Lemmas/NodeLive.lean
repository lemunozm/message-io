import MioModel.Lemmas.Node
/-! Termination of the two dispatch threads of M4 once the node is stopped: every schedule of thread
steps is finite, and none gets stuck before both threads are done (no deadlock on the callback lock).
`C09.measureN` and `C09.measureS` are the measures that the statements of Props/C09 speak of. -/
namespace Mio.C09
open Mio.Node

/-- how many of its own steps the network thread needs at most to finish once the node is stopped
(`p` = events of the current poll batch still to be skipped, each costs four steps).  In the replay a stopped
thread goes `rChecked → rInCb → rTop → rWant → rLocked → done`, each state one more than the next (`rTop`
may also leave for `idle` = 1). -/
def measureN (s : St) : Nat :=
  let p := s.pending.length
  match s.pcN with
  | .done => 0
  | .notStarted => 0
  | .idle => 1
  | .fetch => 4 * p + 2
  | .locked _ => 4 * p + 3
  | .want _ => 4 * p + 4
  | .inCb _ => 4 * p + 3
  | .checked _ => 4 * p + 4
  | .rLocked _ => 5
  | .rWant _ => 6
  | .rTop => 7
  | .rInCb _ => 8
  | .rChecked _ => 9

/-- the same for the signal thread, counting a `receive_timeout` that times out (`fetch → idle`) -/
def measureS (s : St) : Nat :=
  match s.pcS with
  | .idle => 1
  | .fetch => 2
  | .locked _ => 2
  | .want _ => 3
  | .inCb _ => 2
  | .checked _ => 3
  | _ => 0

end Mio.C09

namespace Mio.Node
open C09 (measureN measureS)

/-- Remaining own steps of the signal thread whatever arrives: unlike `measureS` it must also fall when a
signal is received (`fetch → want`), so `fetch` counts 4. -/
def mS : Pc → Nat
  | .idle => 1
  | .locked _ => 2
  | .inCb _ => 2
  | .want _ => 3
  | .checked _ => 3
  | .fetch => 4
  | _ => 0

def total (s : St) : Nat :=
  measureN s + mS s.pcS + (if s.lock = some .caller then 1 else 0)

/-- the steps of the listener's own threads (the environment may deliver any batch / any signal) -/
def ThreadAct : Act → Prop
  | .net _ | .sig _ | .callerRelease => True
  | _ => False

def Finished (s : St) : Prop := s.pcN = .done ∧ (s.pcS = .done ∨ s.pcS = .notStarted)

/-- the network thread sits inside `process_poll_event` with nothing fetched: the only place where the
environment can still hand it an arbitrarily large batch -/
def mayPoll (s : St) : Prop := s.pcN = .fetch ∧ s.pending = []

/-- a started, stopped node in a reachable configuration -/
structure Stopped (s : St) : Prop where
  minv : MInv s
  struct : Struct s
  stopped : s.running = false
  started : s.pcN ≠ .notStarted

/-- one step of a listener thread from a stopped configuration: `Next s' s` — the successor first, as `Acc`
wants it -/
def Next (s' s : St) : Prop := Stopped s ∧ ∃ a, ThreadAct a ∧ step s a = some s'

theorem thread_step {s s' : St} {a : Act} (ha : ThreadAct a) (hs : step s a = some s') :
    (∃ p, NetStep s p s') ∨ (∃ b, SigStep s b s') ∨
      (s.lock = some .caller ∧ s' = { s with lock := none }) := by
  cases Step.of_step hs with
  | net h => exact .inl ⟨_, h⟩
  | sig h => exact .inr (.inl ⟨_, h⟩)
  | callerRelease hl => exact .inr (.inr ⟨hl, rfl⟩)
  | _ => exact ha.elim

theorem stopped_step (s s' : St) (a : Act) (h : Stopped s) (ha : ThreadAct a) (hs : step s a = some s') :
    Stopped s' := by
  refine ⟨step_minv s s' a h.minv hs, step_struct s s' a h.struct hs, ?_, ?_⟩ <;>
    rcases thread_step ha hs with ⟨p, hs⟩ | ⟨b, hs⟩ | ⟨_, rfl⟩
  · rw [hs.flags.running]; exact h.stopped
  · rw [hs.flags.running]; exact h.stopped
  · exact h.stopped
  · exact hs.started
  · rw [hs.frame.1]; exact h.started
  · exact h.started

/-- Stopped, a thread's step strictly decreases its own measure (the network thread's unless it polls a fresh
batch) and the sum — the step that spawns the signal thread raises that thread's — and never gives the lock
to the caller. -/
theorem NetStep.decreases {s s' : St} {p : Nat} (hs : NetStep s p s') (hr : s.running = false)
    (hnp : mayPoll s → p = 0) :
    measureN s' < measureN s ∧ measureN s' + mS s'.pcS < measureN s + mS s.pcS ∧
    (s'.lock = some .caller → s.lock = some .caller) := by
  cases hs <;> simp_all [measureN, mS, mayPoll] <;> omega

theorem SigStep.decreases {s s' : St} {b : Bool} (hs : SigStep s b s') (hr : s.running = false) :
    mS s'.pcS < mS s.pcS ∧ (s'.lock = some .caller → s.lock = some .caller) := by
  cases hs <;> simp_all [mS]

theorem SigStep.decreases_timeout {s s' : St} (hs : SigStep s false s') (hr : s.running = false) :
    measureS s' < measureS s := by
  unfold measureS
  cases hs <;> simp_all

theorem NetStep.leaves_poll {s s' : St} {p : Nat} (hs : NetStep s p s') (hr : s.running = false) : ¬ mayPoll s' := by
  cases hs <;> simp_all [mayPoll]

theorem total_lt {s s' : St} (hw : measureN s' + mS s'.pcS < measureN s + mS s.pcS)
    (hl : s'.lock = some .caller → s.lock = some .caller) : total s' < total s := by
  unfold total
  split
  · rw [if_pos (hl ‹_›)]; omega
  · split <;> omega

theorem release_decreases {s : St} (hl : s.lock = some .caller) : total { s with lock := none } < total s := by
  simp [total, measureN, hl]

/-- A thread step decreases `total` and does not enter `mayPoll` — except the step by which the network
thread leaves `mayPoll`, whatever batch it is handed: that one it takes once. -/
theorem Next.decreases {s s' : St} (hn : Next s' s) :
    (mayPoll s' → mayPoll s) ∧ (total s' < total s ∨ mayPoll s ∧ ¬ mayPoll s') := by
  obtain ⟨h, a, ha, hs⟩ := hn
  rcases thread_step ha hs with ⟨p, hs⟩ | ⟨b, hs⟩ | ⟨hl, rfl⟩
  · have hlp := hs.leaves_poll h.stopped
    refine ⟨fun hp => absurd hp hlp, ?_⟩
    by_cases hp : mayPoll s
    · exact .inr ⟨hp, hlp⟩
    · obtain ⟨_, hw, hl⟩ := hs.decreases h.stopped fun hp' => absurd hp' hp
      exact .inl (total_lt hw hl)
  · obtain ⟨eN, _, eP⟩ := hs.frame
    obtain ⟨hw, hl⟩ := hs.decreases h.stopped
    exact ⟨by unfold mayPoll; rw [eN, eP]; exact id, .inl (total_lt (by unfold measureN; rw [eN, eP]; omega) hl)⟩
  · exact ⟨id, .inl (release_decreases hl)⟩

theorem acc_outside_poll (s : St) (hnp : ¬ mayPoll s) : Acc Next s := by
  have hacc := (measure total).wf.apply s
  induction hacc with
  | intro s _ ih =>
    refine Acc.intro s fun s' hn => ?_
    obtain ⟨hmp, hlt | ⟨hp, _⟩⟩ := hn.decreases
    · exact ih s' hlt (mt hmp hnp)
    · exact absurd hp hnp

/-- lexicographic: the empty fetch is left once (`acc_outside_poll` from there on), otherwise `total` falls -/
theorem acc_stopped (s : St) : Acc Next s := by
  have hacc := (measure total).wf.apply s
  induction hacc with
  | intro s _ ih =>
    refine Acc.intro s fun s' hn => ?_
    obtain ⟨_, hlt | ⟨_, hnp⟩⟩ := hn.decreases
    · exact ih s' hlt
    · exact acc_outside_poll s' hnp

/-- the thread (either one) waits for the callback lock -/
def waits : Pc → Bool
  | .rWant _ | .want _ => true
  | _ => false

/-- a thread is blocked only while it waits for the callback lock -/
theorem stepNet_enabled (s : St) (hd : s.pcN ≠ .done) (hn : s.pcN ≠ .notStarted)
    (hw : waits s.pcN = true → s.lock = none) : (stepNet s 0).isSome = true := by
  unfold stepNet
  cases hp : s.pcN <;> simp_all [waits] <;> (repeat' split) <;> rfl

theorem stepSig_enabled (s : St) (hd : s.pcS ≠ .done) (hn : s.pcS ≠ .notStarted) (hok : sigPcOk s.pcS = true)
    (hw : waits s.pcS = true → s.lock = none) : (stepSig s false).isSome = true := by
  unfold stepSig
  cases hp : s.pcS <;> simp_all [waits, sigPcOk] <;> (repeat' split) <;> rfl

theorem holds_not_waiting {mode : Mode} {pc : Pc} (h : holdsLockN mode pc = true ∨ holdsLockPc pc = true) :
    pc ≠ .done ∧ pc ≠ .notStarted ∧ waits pc = false := by
  cases pc <;> simp_all [holdsLockN, holdsLockPc, waits]

/-- no deadlock: while a thread is still alive, some listener-thread step is enabled -/
theorem stopped_progress (s : St) (h : Stopped s) (hnf : ¬ Finished s) :
    ∃ a, ThreadAct a ∧ (step s a).isSome = true := by
  cases hl : s.lock with
  | some o =>
    cases o with
    | caller => exact ⟨.callerRelease, trivial, by simp [step, hl]⟩
    | net =>
      obtain ⟨h1, h2, h3⟩ := holds_not_waiting (.inl (h.minv.lockN.1 hl))
      exact ⟨.net 0, trivial, stepNet_enabled s h1 h2 fun hw => by simp [h3] at hw⟩
    | sig =>
      obtain ⟨h1, h2, h3⟩ := holds_not_waiting (mode := s.mode) (.inr (h.minv.lockS.1 hl))
      exact ⟨.sig false, trivial, stepSig_enabled s h1 h2 h.minv.sigOk fun hw => by simp [h3] at hw⟩
  | none =>
    by_cases hd : s.pcN = .done
    · exact ⟨.sig false, trivial,
        stepSig_enabled s (fun hx => hnf ⟨hd, .inl hx⟩) (fun hx => hnf ⟨hd, .inr hx⟩) h.minv.sigOk
          fun _ => hl⟩
    · exact ⟨.net 0, trivial, stepNet_enabled s hd h.started fun _ => hl⟩

theorem stopped_of_reachable (mode : Mode) (c : Nat) (s : St) (h : Reachable mode c s)
    (hr : s.running = false) (hst : s.pcN ≠ .notStarted) : Stopped s :=
  ⟨reachable_minv mode c s h, reachable_struct mode c s h, hr, hst⟩

/-- every schedule is finite and none is stuck early, so following enabled steps reaches the end -/
theorem stopped_finishes {s : St} (hS : Stopped s) :
    ∃ acts s', (∀ a ∈ acts, ThreadAct a) ∧ run s acts = some s' ∧ Finished s' ∧ s'.running = false := by
  induction acc_stopped s with
  | intro s _ ih =>
    by_cases hf : Finished s
    · exact ⟨[], s, nofun, rfl, hf, hS.stopped⟩
    · obtain ⟨a, ha, hen⟩ := stopped_progress s hS hf
      obtain ⟨s1, hs1⟩ := Option.isSome_iff_exists.mp hen
      obtain ⟨acts, s', hall, hrun, hfin⟩ := ih s1 ⟨hS, a, ha, hs1⟩ (stopped_step s s1 a hS ha hs1)
      exact ⟨a :: acts, s', List.forall_mem_cons.mpr ⟨ha, hall⟩, by simp only [run, hs1]; exact hrun, hfin⟩

end Mio.Node
