import MioModel.Lemmas.SendLoop
import MioModel.Lemmas.Stream
import MioModel.Lemmas.NodeOrder
/-! # C11 — Raw Tcp preserves the byte stream -/
namespace Mio.C11
open Mio Mio.Stream Mio.Generated

/-- `send` returning `Sent` put exactly `data` on the wire, for every pattern of partial writes and
`WouldBlock`s; whatever the outcome, what was written is a prefix of `data` (nothing skipped,
repeated or reordered). -/
theorem tcpSend_wire (data : Bytes) (sched : List WAns) :
    (tcpSend data sched).wire <+: data ∧
    ((tcpSend data sched).status = some .sent → (tcpSend data sched).wire = data) := by
  rw [tcpSend, tcpSendLoop_eq_framed]
  exact framedSendLoop_wire [] data sched 0

/-- Each `Message` chunk is non-empty and at most `INPUT_BUFFER_SIZE` long (the constant is
regenerated from the crate), and the chunks are exactly the bytes consumed, in order. -/
theorem tcpReceive_chunks (rx : Bytes) (fin : Bool) (sched : List RAns)
    (hl : LegalR tcpInputBufferSize rx fin sched) :
    (tcpReceive rx sched).outs.flatten ++ (tcpReceive rx sched).rx = rx ∧
    (∀ o ∈ (tcpReceive rx sched).outs, 1 ≤ o.length ∧ o.length ≤ tcpInputBufferSize) :=
  let h := tcp_recv_chunks tcpInputBufferSize sched rx fin hl
  ⟨h.1, h.2.1⟩

/-- `WaitNextEvent` is only reported once everything readable has been read: no byte waits for
traffic that may never come. -/
theorem tcpReceive_drains (rx : Bytes) (fin : Bool) (sched : List RAns)
    (hl : LegalR tcpInputBufferSize rx fin sched)
    (h : (tcpReceive rx sched).status = some .waitNextEvent) : (tcpReceive rx sched).rx = [] :=
  recv_drains _ sched () rx fin hl h

/-- End to end over any number of poll events on a connection that stays up: the concatenation of
all `Message` chunks equals the concatenation of everything that arrived, and nothing is left. -/
theorem tcp_end_to_end : ∀ (evs : List PollEv) (c : ConnSt Unit),
    LegalSession tcpInputBufferSize (fun (_ : Unit) ch => some ((), [ch])) c evs → c.rx = [] →
    let f := session tcpInputBufferSize (fun (_ : Unit) ch => some ((), [ch])) c evs
    f.outs.flatten = c.outs.flatten ++ (evs.map (·.arrived)).flatten ∧ f.rx = [] ∧
      f.panicked = c.panicked := by
  intro evs c hl hrx
  obtain ⟨h1, h2, chunks, outs, h3, h4, h5⟩ := session_spec _ evs c hl hrx
  rw [feedWith_tcp] at h5
  cases h5
  exact ⟨by rw [h4, List.flatten_append, h3], h1, h2⟩

/-! Non-vacuity: 5 bytes sent with a partial write and a `WouldBlock`, received in two reads over
two poll events. -/
example : tcpSend [1, 2, 3, 4, 5] [.accept 2, .wouldBlock, .accept 10] = { status := some .sent, wire := [1, 2, 3, 4, 5] } := by
  decide
example : LegalSession tcpInputBufferSize (fun (_ : Unit) ch => some ((), [ch])) { st := () }
    [{ arrived := [1, 2, 3], sched := [.take 2, .take 1, .wouldBlock] }, { arrived := [4, 5], sched := [.take 2, .wouldBlock] }] := by
  simp [LegalSession, LegalR, recvLoop, tcpInputBufferSize]
example : (session tcpInputBufferSize (fun (_ : Unit) ch => some ((), [ch])) { st := () }
    [{ arrived := [1, 2, 3], sched := [.take 2, .take 1, .wouldBlock] }, { arrived := [4, 5], sched := [.take 2, .wouldBlock] }]).outs
    = [[1, 2], [3], [4, 5]] := by decide

/-! ## Through the node's dispatch layer

Whatever the listener mode and however many chunks were cached before the listener call, the callback
sees the chunks the processor produced in production order (`Mio.Node.reachable_oinv`): the bytes it
has received so far are a prefix of the bytes produced. -/

/-- the byte stream handed to the callback by the node is a prefix of the byte stream the processor's
chunks make up — never a permutation of it -/
theorem tcp_stream_through_node (chunks : List Bytes) (mode : Mio.Node.Mode) (c : Nat) (n : Mio.Node.St)
    (hn : Mio.Node.Reachable mode c n) :
    ((Mio.Node.netLog n).filterMap (fun i => chunks[i]?)).flatten <+: chunks.flatten := by
  rw [Mio.Node.delivered_prefix chunks mode c n hn]
  refine ⟨(chunks.drop (Mio.Node.netLog n).length).flatten, ?_⟩
  rw [← List.flatten_append, List.take_append_drop]

/-- **The send loop never gives up.**  `WouldBlock` answers — any number of them, anywhere in the call —
change neither the bytes written nor the status; and as long as the kernel reports no error the call
does not return at all before everything is written (`none` = still looping): a peer that stops reading
for any length of time cannot make `send()` return with part of the buffer on the wire. -/
theorem tcpSend_never_gives_up (data : Bytes) (sched : List WAns) :
    tcpSend data (sched.filter (fun a => a != .wouldBlock)) = tcpSend data sched ∧
    ((∀ a ∈ sched, a ≠ WAns.error) →
      (tcpSend data sched).status = none ∨ (tcpSend data sched).status = some .sent) := by
  rw [tcpSend, tcpSend, tcpSendLoop_eq_framed, tcpSendLoop_eq_framed]
  exact ⟨framedSendLoop_wouldBlock_transparent [] data sched 0, framedSendLoop_no_error [] data sched 0⟩

/-! Non-vacuity: two partial writes with forty `WouldBlock`s in between. -/
example : tcpSend [1, 2, 3] (.accept 1 :: List.replicate 40 .wouldBlock ++ [.accept 5]) =
    { status := some .sent, wire := [1, 2, 3] } := by decide

end Mio.C11
