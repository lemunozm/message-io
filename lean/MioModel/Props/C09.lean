import MioModel.Lemmas.NodeLive
/-! # C09 — After stop() the callback is never invoked again and the listener returns -/
namespace Mio.C09
open Mio.Node

/-- If a thread executes `stop()` while it is inside the callback, no invocation occurs later in the
execution — by any thread, for cached or live network events or for queued signals: in every
reachable state the log is exactly as long as it was at that `stop()`. -/
theorem no_invoke_after_inner_stop (mode : Mode) (c : Nat) (s : St) (h : Reachable mode c s) (k : Nat)
    (hk : s.stopInCb = some k) : s.log.length = k ∧ s.running = false :=
  let m := (reachable_minv mode c s h).stopIn k hk
  ⟨m.2.1, m.1⟩

/-- `stop()` before `for_each` / `for_each_async` / `enqueue` is called at all: the callback is never
invoked, whatever had been cached. -/
theorem no_invoke_if_stopped_before_start (mode : Mode) (c : Nat) (s : St) (h : Reachable mode c s)
    (hb : s.stoppedBeforeStart = true) : s.log = [] ∧ s.running = false :=
  let m := (reachable_minv mode c s h).stopBefore hb
  ⟨m.2.1, m.1⟩

/-- nobody ever sets the flag back: `is_running()` stays false -/
theorem running_stays_false (s s' : St) (a : Act) (hs : step s a = some s') (hr : s.running = false) :
    s'.running = false := by
  cases Step.of_step hs with
  | net h | sig h => rw [h.flags.running]; exact hr
  | startSync | startAsync | callerRelease => exact hr
  | stopInNet | stopInSig | stopExt => rfl

/-- After `stop()`, whenever the callback lock is free (or its own), the network thread can take a
step, and each of its steps brings it strictly closer to `done`: `for_each` returns / the
`NodeTask` can be joined within `measureN` steps of that thread, without invoking the callback
unless it had already passed its last `is_running()` test. -/
theorem net_thread_terminates (s : St) (hm : MInv s) (hr : s.running = false) (hpc : s.pcN ≠ .done)
    (hns : s.pcN ≠ .notStarted) (hother : s.lock ≠ some .sig ∧ s.lock ≠ some .caller)
    (hrp : inReplay s.pcN = true → s.pending = []) :
    ∃ s', step s (.net 0) = some s' ∧ measureN s' < measureN s := by
  have _ := hrp  -- not used: the measure of a replay state does not depend on `pending`
  have hfree : s.lock = none ∨ s.lock = some .net := by
    cases hl : s.lock with
    | none => exact .inl rfl
    | some o => cases o <;> simp_all
  have hw : waits s.pcN = true → s.lock = none := fun hw =>
    hfree.resolve_right fun hl => by simp [(holds_not_waiting (.inl (hm.lockN.1 hl))).2.2] at hw
  obtain ⟨s', hs⟩ := Option.isSome_iff_exists.mp (stepNet_enabled s hpc hns hw)
  exact ⟨s', hs, ((NetStep.of_stepNet hs).decreases hr fun _ => rfl).1⟩

/-- the same for the signal thread (its `receive_timeout` returns after at most the sampling period) -/
theorem sig_thread_terminates (s : St) (hm : MInv s) (hr : s.running = false) (hpc : s.pcS ≠ .done)
    (hns : s.pcS ≠ .notStarted) (hother : s.lock ≠ some .net ∧ s.lock ≠ some .caller) :
    ∃ s', step s (.sig false) = some s' ∧ measureS s' < measureS s := by
  have hfree : s.lock = none ∨ s.lock = some .sig := by
    cases hl : s.lock with
    | none => exact .inl rfl
    | some o => cases o <;> simp_all
  have hw : waits s.pcS = true → s.lock = none := fun hw =>
    hfree.resolve_right fun hl => by
      simp [(holds_not_waiting (mode := s.mode) (.inr (hm.lockS.1 hl))).2.2] at hw
  obtain ⟨s', hs⟩ := Option.isSome_iff_exists.mp (stepSig_enabled s hpc hns hm.sigOk hw)
  exact ⟨s', hs, (SigStep.of_stepSig hs).decreases_timeout hr⟩

/-! ## The listener returns: all schedules, both threads, the callback lock included

`Next s' s` is one step of a listener thread (network thread with *any* poll result, signal thread
with or without a signal arriving, the caller of `for_each_async` dropping its guard) from a started,
stopped, reachable configuration `s`. -/

/-- After `stop()`, **every** schedule of the listener's threads is finite: there is no infinite
sequence of thread steps, whatever the poller and the signal queue keep delivering (`Acc` = all
descending chains are finite). -/
theorem stopped_node_every_schedule_finite (mode : Mode) (c : Nat) (s : St) (h : Reachable mode c s)
    (hr : s.running = false) (hst : s.pcN ≠ .notStarted) : Acc Next s := by
  have _ := And.intro h (And.intro hr hst)  -- not used: `Next` itself says that its source is `Stopped`
  exact acc_stopped s

/-- … and no schedule gets stuck early: as long as one of the two threads has not finished, some
thread step is enabled (the callback lock is never held by a thread that is gone, and never held
by nobody while somebody waits). -/
theorem stopped_node_no_deadlock (mode : Mode) (c : Nat) (s : St) (h : Reachable mode c s)
    (hr : s.running = false) (hst : s.pcN ≠ .notStarted) (hnf : ¬ Finished s) :
    ∃ a, ThreadAct a ∧ (step s a).isSome = true :=
  stopped_progress s (stopped_of_reachable mode c s h hr hst) hnf

/-- Together: from every stopped configuration the two threads reach `done` (the listener call
returns / the `NodeTask` can be joined). -/
theorem listener_returns (mode : Mode) (c : Nat) (s : St) (h : Reachable mode c s)
    (hr : s.running = false) (hst : s.pcN ≠ .notStarted) :
    ∃ acts s', (∀ a ∈ acts, ThreadAct a) ∧ run s acts = some s' ∧ Finished s' ∧ s'.running = false :=
  stopped_finishes (stopped_of_reachable mode c s h hr hst)

/-! Non-vacuity: the as-found F4 history — one cached event, `stop()` before `for_each()` — on the
current model: the callback is not invoked and the listener returns; and a signal callback that
stops the node while the network thread waits for the lock (asynchronous mode). -/
example : ∃ s, run (init .sync 1) [.stopExt, .start, .net 0] = some s ∧ s.log = [] ∧ s.pcN = .done :=
  ⟨_, rfl, rfl, rfl⟩
example : ∃ s, run (init .async 1) [.start, .callerRelease, .sig true, .sig true, .sig true, .sig true, .sig true,
    .net 0, .stopIn .sig, .sig true, .net 0, .net 0, .sig true] = some s ∧
    s.log = [(.sig, .sig 0)] ∧ s.pcN = .done ∧ s.pcS = .done ∧ s.stopInCb = some 1 := ⟨_, rfl, rfl, rfl, rfl, rfl⟩

end Mio.C09
