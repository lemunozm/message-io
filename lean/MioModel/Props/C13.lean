import MioModel.Lemmas.SendLoop
import MioModel.Lemmas.Net
import MioModel.Props.C12
/-! # C13 — send() status is truthful and size limits match max_message_size() -/
namespace Mio.C13
open Mio Mio.Net Mio.Generated

/-- The status table of `send` (driver.rs:173-187): `ResourceNotFound` iff the endpoint is not in its
registry; `ResourceNotAvailable` iff it is registered and not ready, and then the adapter's `send` is
*not* invoked (nothing is transmitted); otherwise the adapter's own status. -/
theorem send_status_table (s s' : St) (id : Nat) (a : Status) (hf : Fresh s)
    (hs : step s (.send id a) = some s') :
    (id ∉ s.live → s'.results.getLast? = some ("send", id, "ResourceNotFound") ∧ s'.adapterSends = s.adapterSends) ∧
    (∀ r ∈ s.regs, r.id = id → id ∈ s.live → r.ready = false →
      s'.results.getLast? = some ("send", id, "ResourceNotAvailable") ∧ s'.adapterSends = s.adapterSends) ∧
    (∀ r ∈ s.regs, r.id = id → id ∈ s.live → r.ready = true →
      s'.results.getLast? = some ("send", id, showStatus a) ∧ s'.adapterSends = s.adapterSends ++ [id]) := by
  refine ⟨fun hnl => ?_, fun r hr hrid hl hnr => ?_, fun r hr hrid hl hrd => ?_⟩
  · cases (step_send_of_not_live hnl a).symm.trans hs
    exact ⟨getLast?_record .., rfl⟩
  · cases (step_send_of_find hl (hrid ▸ findReg_unique hf hr) a).symm.trans hs
    rw [hnr]; exact ⟨getLast?_record .., rfl⟩
  · cases (step_send_of_find hl (hrid ▸ findReg_unique hf hr) a).symm.trans hs
    rw [hrd]; exact ⟨getLast?_record .., rfl⟩

/-- the log of events is never touched by `send`: a rejected or failed send leaves the connection as
it was -/
theorem send_leaves_connection (s s' : St) (id : Nat) (a : Status) (hs : step s (.send id a) = some s') :
    s'.live = s.live ∧ s'.regs = s.regs ∧ s'.log = s.log ∧ s'.proc = s.proc := by
  cases Step.of_step hs
  exact ⟨rfl, rfl, rfl, rfl⟩

/-- WebSocket size limit: `MaxPacketSizeExceeded` exactly when the payload is larger than the declared
maximum (`Transport::Ws.max_message_size()`, regenerated), and then nothing is transmitted -/
theorem ws_size_limit_exact (data : Bytes) (flushOk : Bool) :
    (wsMaxPayloadLen < data.length ↔ (Stream.wsSend data flushOk).1 = .maxPacketSizeExceeded) ∧
    ((Stream.wsSend data flushOk).1 = .maxPacketSizeExceeded → (Stream.wsSend data flushOk).2 = []) ∧
    (data.length ≤ wsMaxPayloadLen → flushOk = true → Stream.wsSend data flushOk = (.sent, [data])) := by
  unfold Stream.wsSend
  by_cases h : data.length > wsMaxPayloadLen
  · simp [h]; omega
  · cases flushOk <;> simp [h] <;> omega

/-- the declared maxima agree with the adapters' own limits (regenerated table): Ws is the
WebSocket limit, Udp the local payload maximum, the stream transports are unbounded -/
theorem declared_maxima :
    (transports.find? (·.name = "Ws")).map (·.maxMessageSize) = some wsMaxPayloadLen ∧
    (transports.find? (·.name = "Udp")).map (·.maxMessageSize) = some udpMaxLocalPayloadLen ∧
    (transports.find? (·.name = "Tcp")).map (·.maxMessageSize) = some (2 ^ 64 - 1) ∧
    (transports.find? (·.name = "FramedTcp")).map (·.maxMessageSize) = some (2 ^ 64 - 1) := by
  decide +kernel

/-- UDP `send_packet` (udp.rs): the size test happens before the socket is touched -/
def udpSend (len : Nat) (osOk : Bool) : Status × Nat :=
  if len > udpMaxLocalPayloadLen then (.maxPacketSizeExceeded, 0)
  else if osOk then (.sent, 1) else (.resourceNotFound, 0)

theorem udp_size_limit_exact (len : Nat) (osOk : Bool) :
    (udpMaxLocalPayloadLen < len ↔ (udpSend len osOk).1 = .maxPacketSizeExceeded) ∧
    ((udpSend len osOk).1 ≠ .sent → (udpSend len osOk).2 = 0) ∧
    (len ≤ udpMaxLocalPayloadLen → osOk = true → udpSend len osOk = (.sent, 1)) := by
  unfold udpSend
  by_cases h : len > udpMaxLocalPayloadLen
  · simp [h]; omega
  · cases osOk <;> simp [h] <;> omega

/-- the same on the full UDP model M8, for both address families (the kernel's own limit is 65507 over
IPv4 but 65527 over IPv6: only the adapter's check makes the limit the declared one there) -/
theorem udp_size_limit_exact_m8 (w : Mio.Udp.World) (h : Mio.Udp.Reachable w) (ep : Mio.Udp.Endpoint)
    (s : Mio.Udp.Sock) (data : Bytes) (hs : w.socks[ep.rid]? = some s) (hk : s.kind ≠ .raw) :
    ((Mio.Udp.send w ep data).2 = .maxPacketSizeExceeded ↔ data.length > udpMaxLocalPayloadLen) ∧
    ((Mio.Udp.send w ep data).2 = .sent ↔
      data.length ≤ udpMaxLocalPayloadLen ∧ ¬ ((∃ p, s.kind = .connected p) ∧ s.err = true)) ∧
    (data.length > udpMaxLocalPayloadLen → (Mio.Udp.send w ep data).1.socks = w.socks) :=
  Mio.C12.size_status w (Mio.C12.kernel_admits_declared_maximum w h) ep s data hs hk

/-- `Sent` is truthful on the one path where the kernel refuses a datagram it was handed: a connected
socket with a pending ICMP error answers `ResourceNotFound` and nothing is transmitted -/
theorem udp_refused_is_not_sent (w : Mio.Udp.World) (h : Mio.Udp.Reachable w) (ep : Mio.Udp.Endpoint)
    (s : Mio.Udp.Sock) (p : Nat) (data : Bytes) (hs : w.socks[ep.rid]? = some s) (hk : s.kind = .connected p)
    (he : s.err = true) (hl : data.length ≤ udpMaxLocalPayloadLen) :
    (Mio.Udp.send w ep data).2 = .resourceNotFound ∧
    ∀ j : Nat, ((Mio.Udp.send w ep data).1.socks[j]?).map Mio.Udp.Sock.queue = (w.socks[j]?).map Mio.Udp.Sock.queue :=
  Mio.C12.refused_send_transmits_nothing w ep s p data hs hk he
    (Nat.le_trans hl (Mio.C12.kernel_admits_declared_maximum w h)) hl

/-- the statuses the stream adapters' send loops can produce: `Sent` (everything written),
`ResourceNotFound` (the kernel reported an error) — never `ResourceNotAvailable`, never
`MaxPacketSizeExceeded`; `none` = the call has not returned yet -/
theorem stream_send_statuses (data : Mio.Bytes) (sched : List Mio.Stream.WAns) :
    ((Mio.Stream.tcpSend data sched).status = none ∨ (Mio.Stream.tcpSend data sched).status = some .sent ∨
      (Mio.Stream.tcpSend data sched).status = some .resourceNotFound) ∧
    ((Mio.Stream.framedSend data sched).status = none ∨ (Mio.Stream.framedSend data sched).status = some .sent ∨
      (Mio.Stream.framedSend data sched).status = some .resourceNotFound) := by
  rw [Mio.Stream.tcpSend, Mio.Stream.tcpSendLoop_eq_framed]
  exact ⟨(Mio.Stream.framedSendLoop_status [] data sched 0).imp_right (.imp_right And.left),
    (Mio.Stream.framedSendLoop_status _ data sched 0).imp_right (.imp_right And.left)⟩

/-! Non-vacuity of `send_status_table`: a send to a pending connection, then to the established one, then after
removal. -/
example : ∃ s, run {} [.connect 1, .send 0 .sent, .pollRemote 0 false, .pending .ready, .beginReceive 0 false,
    .send 0 .sent, .remove 0, .send 0 .sent] = some s ∧
    s.results.map (·.2.2) = ["ok", "ResourceNotAvailable", "Sent", "true", "ResourceNotFound"] ∧
    s.adapterSends = [0] := by decide

end Mio.C13
