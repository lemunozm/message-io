import MioModel.EventQueue
/-! Lemmas for M3: key order, the sorted timer map, folding of timer commands; then the three receive calls.

A receive call sees the queue only through `q.prio`, `live q` and `q.plain`: `tryReceive` is four equations over
these, and the blocking calls are `tryReceive` at `now`, then a sleep until the first pending timer. -/
namespace Mio.EvQ
variable {E : Type}

theorem Key.lt_iff (a b : Key) :
    a.lt b = true ↔ a.deadline < b.deadline ∨ (a.deadline = b.deadline ∧ a.seq < b.seq) := by
  simp [Key.lt]

theorem Key.lt_irrefl (a : Key) : a.lt a = false := by
  simp [Key.lt]

theorem Key.lt_trans {a b c : Key} (h1 : a.lt b = true) (h2 : b.lt c = true) : a.lt c = true := by
  rw [Key.lt_iff] at *; omega

theorem Key.lt_asymm {a b : Key} (h1 : a.lt b = true) : b.lt a = false := by
  cases h : b.lt a
  · rfl
  · rw [Key.lt_iff] at *; omega

theorem Key.lt_total {a b : Key} (h : a ≠ b) : a.lt b = true ∨ b.lt a = true := by
  cases a; cases b
  simp only [ne_eq, Key.mk.injEq, Key.lt_iff] at h ⊢
  omega

theorem Key.lt_deadline_le {a b : Key} (h : a.lt b = true) : a.deadline ≤ b.deadline := by
  rw [Key.lt_iff] at h; omega

/-- the timer map is strictly sorted by key (what a `BTreeMap` iterates as) -/
def Sorted (ts : List (Key × E)) : Prop := List.Pairwise (fun a b => a.1.lt b.1 = true) ts

theorem eq_or_mem_of_mem_insert {k : Key} {e : E} {ts : List (Key × E)} {p : Key × E}
    (h : p ∈ insert k e ts) : p = (k, e) ∨ p ∈ ts := by
  fun_induction insert k e ts with
  | case1 => exact .inl (List.mem_singleton.mp h)
  | case2 e' ts => exact (List.mem_cons.mp h).imp_right (List.mem_cons_of_mem _)
  | case3 k' e' ts hk hlt => exact List.mem_cons.mp h
  | case4 k' e' ts hk hlt ih =>
    rcases List.mem_cons.mp h with h | h
    · exact .inr (h ▸ List.mem_cons_self)
    · exact (ih h).imp_right (List.mem_cons_of_mem _)

theorem mem_insert_self (k : Key) (e : E) (ts : List (Key × E)) : (k, e) ∈ insert k e ts := by
  fun_induction insert k e ts with
  | case1 | case2 | case3 => exact List.mem_cons_self
  | case4 k' e' ts hk hlt ih => exact List.mem_cons_of_mem _ ih

theorem mem_insert_of_ne {k : Key} {e : E} {ts : List (Key × E)} {p : Key × E}
    (h : p ∈ ts) (hne : p.1 ≠ k) : p ∈ insert k e ts := by
  fun_induction insert k e ts with
  | case1 => cases h
  | case2 e' ts =>
    rcases List.mem_cons.mp h with h | h
    · exact absurd (congrArg Prod.fst h) hne
    · exact List.mem_cons_of_mem _ h
  | case3 k' e' ts hk hlt => exact List.mem_cons_of_mem _ h
  | case4 k' e' ts hk hlt ih =>
    rcases List.mem_cons.mp h with h | h
    · exact h ▸ List.mem_cons_self
    · exact List.mem_cons_of_mem _ (ih h)

theorem insert_sorted {k : Key} {e : E} {ts : List (Key × E)} (hs : Sorted ts) : Sorted (insert k e ts) := by
  fun_induction insert k e ts with
  | case1 => exact List.pairwise_singleton _ _
  | case2 e' ts => exact List.pairwise_cons.mpr (List.pairwise_cons.mp hs)
  | case3 k' e' ts hk hlt =>
    refine List.pairwise_cons.mpr ⟨fun p hp => ?_, hs⟩
    rcases List.mem_cons.mp hp with hp | hp
    · exact hp ▸ hlt
    · exact Key.lt_trans hlt ((List.pairwise_cons.mp hs).1 p hp)
  | case4 k' e' ts hk hlt ih =>
    obtain ⟨hhead, htail⟩ := List.pairwise_cons.mp hs
    refine List.pairwise_cons.mpr ⟨fun p hp => ?_, ih htail⟩
    rcases eq_or_mem_of_mem_insert hp with hp | hp
    · exact hp ▸ (Key.lt_total hk).resolve_left hlt
    · exact hhead p hp

theorem remove_sorted {k : Key} {ts : List (Key × E)} (h : Sorted ts) : Sorted (remove k ts) :=
  List.Pairwise.filter _ h

theorem mem_remove {k : Key} {ts : List (Key × E)} {p : Key × E} :
    p ∈ remove k ts ↔ p ∈ ts ∧ p.1 ≠ k := by
  simp [remove]

theorem applyCmd_sorted {ts : List (Key × E)} {c : Key × Cmd E} (h : Sorted ts) :
    Sorted (applyCmd ts c) := by
  unfold applyCmd
  split
  · exact insert_sorted h
  · exact remove_sorted h

theorem foldCmds_sorted {cs : List (Key × Cmd E)} {ts : List (Key × E)} (h : Sorted ts) :
    Sorted (foldCmds ts cs) := by
  induction cs generalizing ts with
  | nil => exact h
  | cons c cs ih => exact ih (applyCmd_sorted h)

theorem foldCmds_append (ts : List (Key × E)) (a b : List (Key × Cmd E)) :
    foldCmds ts (a ++ b) = foldCmds (foldCmds ts a) b := by
  simp [foldCmds, List.foldl_append]

theorem foldCmds_cons (ts : List (Key × E)) (c : Key × Cmd E) (cs : List (Key × Cmd E)) :
    foldCmds ts (c :: cs) = foldCmds (applyCmd ts c) cs := rfl

theorem Sorted.head_key_min {k : Key} {e : E} {ts : List (Key × E)} (h : Sorted ((k, e) :: ts)) :
    ∀ p ∈ (k, e) :: ts, p.1 = k ∨ k.lt p.1 = true :=
  fun p hp => (List.mem_cons.mp hp).imp (congrArg Prod.fst) ((List.pairwise_cons.mp h).1 p)

/-- pending timers once the queued commands are applied -/
def live (q : Q E) : List (Key × E) := foldCmds q.timers q.cmds

/-- the queue after `enque_timers()` -/
def folded (q : Q E) : Q E := { q with timers := live q, cmds := [] }

/-- no pending timer has expired at `tnow` (said of the head, which is the least) -/
def NoneDue (tnow : Nat) (q : Q E) : Prop := ∀ k e ts, live q = (k, e) :: ts → tnow < k.deadline

theorem due_or_noneDue (tnow : Nat) (q : Q E) :
    (∃ k e ts, live q = (k, e) :: ts ∧ k.deadline ≤ tnow) ∨ NoneDue tnow q := by
  unfold NoneDue
  cases live q with
  | nil => exact .inr (fun _ _ _ h => nomatch h)
  | cons t ts =>
    by_cases hd : t.1.deadline ≤ tnow
    · exact .inl ⟨t.1, t.2, ts, rfl, hd⟩
    · exact .inr (fun _ _ _ h => by cases h; exact Nat.lt_of_not_le hd)

theorem noneDue_mono {t t' : Nat} {q : Q E} (h : NoneDue t q) (ht : t' ≤ t) : NoneDue t' q :=
  fun k e ts hl => Nat.lt_of_le_of_lt ht (h k e ts hl)

theorem noneDue_iff {t : Nat} {q : Q E} (hs : Sorted (live q)) :
    NoneDue t q ↔ ∀ p ∈ live q, t < p.1.deadline := by
  unfold NoneDue
  constructor
  · intro h p hp
    cases hl : live q with
    | nil => rw [hl] at hp; cases hp
    | cons x ts =>
      rw [hl] at hs hp
      rcases hs.head_key_min p hp with hx | hx
      · exact hx ▸ h x.1 x.2 ts hl
      · exact Nat.lt_of_lt_of_le (h x.1 x.2 ts hl) (Key.lt_deadline_le hx)
  · intro h k e ts hl
    exact h (k, e) (hl ▸ List.mem_cons_self)

/-- the conclusion is "something can be handed out", negated, in the words of C06 and `C16.Deliverable` -/
theorem no_work {t : Nat} {q : Q E} (hs : Sorted (live q)) (hp : q.prio = []) (hx : q.plain = [])
    (hne : NoneDue t q) : ¬ (q.prio ≠ [] ∨ q.plain ≠ [] ∨ ∃ p ∈ live q, p.1.deadline ≤ t) := by
  rintro (h | h | ⟨p, hp1, hp2⟩)
  · exact h hp
  · exact h hx
  · exact Nat.not_le.mpr ((noneDue_iff hs).mp hne p hp1) hp2

section
variable {now : Nat} {q : Q E}

theorem tryReceive_prio {p : E} {ps : List E} (hp : q.prio = p :: ps) :
    tryReceive now q = (some p, { folded q with prio := ps }) := by
  simp [tryReceive, readyEvent, folded, live, hp]

theorem tryReceive_timer {k : Key} {e : E} {ts : List (Key × E)} (hp : q.prio = [])
    (hl : live q = (k, e) :: ts) (hd : k.deadline ≤ now) :
    tryReceive now q = (some e, { folded q with timers := ts }) := by
  unfold live at hl
  simp [tryReceive, readyEvent, folded, hp, hl, hd]

theorem readyEvent_none (hp : q.prio = []) (hne : NoneDue now q) : readyEvent now q = (none, folded q) := by
  unfold NoneDue live at hne
  simp only [readyEvent, hp]
  split
  · rename_i k e ts hl; simp [folded, live, hp, Nat.not_le.mpr (hne k e ts hl)]
  · simp [folded, live, hp]

theorem tryReceive_plain {x : E} {xs : List E} (hp : q.prio = []) (hne : NoneDue now q)
    (hx : q.plain = x :: xs) : tryReceive now q = (some x, { folded q with plain := xs }) := by
  have : (folded q).plain = x :: xs := hx
  simp only [tryReceive, readyEvent_none hp hne, this]

theorem tryReceive_none (hp : q.prio = []) (hne : NoneDue now q) (hx : q.plain = []) :
    tryReceive now q = (none, folded q) := by
  have : (folded q).plain = [] := hx
  simp only [tryReceive, readyEvent_none hp hne, this]

theorem tryReceive_none_iff :
    (tryReceive now q).1 = none ↔ q.prio = [] ∧ q.plain = [] ∧ NoneDue now q := by
  refine ⟨fun h => ?_, fun ⟨hp, hx, hne⟩ => by rw [tryReceive_none hp hne hx]⟩
  cases hp : q.prio with
  | cons p ps => rw [tryReceive_prio hp] at h; cases h
  | nil =>
    rcases due_or_noneDue now q with ⟨k, e, ts, hl, hd⟩ | hne
    · rw [tryReceive_timer hp hl hd] at h; cases h
    · cases hx : q.plain with
      | cons x xs => rw [tryReceive_plain hp hne hx] at h; cases h
      | nil => exact ⟨rfl, rfl, hne⟩

theorem tryReceive_none_mono {t t' : Nat} (ht : t ≤ t') (h : (tryReceive t' q).1 = none) :
    (tryReceive t q).1 = none := by
  rw [tryReceive_none_iff] at h ⊢
  exact ⟨h.1, h.2.1, noneDue_mono h.2.2 ht⟩

theorem tryReceive_sorted (h : Sorted q.timers) : Sorted (tryReceive now q).2.timers := by
  have hs : Sorted (live q) := foldCmds_sorted h
  cases hp : q.prio with
  | cons p ps => rw [tryReceive_prio hp]; exact hs
  | nil =>
    rcases due_or_noneDue now q with ⟨k, e, ts, hl, hd⟩ | hne
    · rw [tryReceive_timer hp hl hd]; exact List.Pairwise.of_cons (hl ▸ hs)
    · cases hx : q.plain with
      | cons x xs => rw [tryReceive_plain hp hne hx]; exact hs
      | nil => rw [tryReceive_none hp hne hx]; exact hs

theorem receiveTimeout_eq {d : Nat} : receiveTimeout now d q =
    match tryReceive now q with
    | (some e, q') => (some e, now, q')
    | (none, q') =>
      match q'.timers with
      | (k, e) :: ts =>
        if k.deadline ≤ now + d then (some e, k.deadline, { q' with timers := ts }) else (none, now + d, q')
      | [] => (none, now + d, q') := by
  unfold receiveTimeout tryReceive
  split
  · rfl
  · split <;> rfl

theorem receive_eq : receive now q =
    match tryReceive now q with
    | (some e, q') => some (e, now, q')
    | (none, q') =>
      match q'.timers with
      | (k, e) :: ts => some (e, k.deadline, { q' with timers := ts })
      | [] => none := by
  unfold receive tryReceive
  split
  · rfl
  · split <;> rfl

theorem receiveTimeout_of_receive {e : E} {t d : Nat} {q' : Q E} (h : receive now q = some (e, t, q'))
    (hd : t ≤ now + d) : receiveTimeout now d q = (some e, t, q') := by
  rw [receive_eq] at h
  rw [receiveTimeout_eq]
  split at h
  · cases h; rfl
  · split at h
    · cases h; exact if_pos hd
    · cases h

end

/-- `receive_timeout(d)` returns what `try_receive()` would return at the first instant of its window
at which that is something, and nothing at the end of the window if there is no such instant -/
theorem receiveTimeout_spec (now d : Nat) (q : Q E) :
    ∃ t, now ≤ t ∧ t ≤ now + d ∧ receiveTimeout now d q = ((tryReceive t q).1, t, (tryReceive t q).2) ∧
      (∀ t', now ≤ t' → t' < t → (tryReceive t' q).1 = none) ∧
      ((tryReceive t q).1 = none → t = now + d) := by
  rw [receiveTimeout_eq]
  cases hr : tryReceive now q with
  | mk o q' =>
  cases o with
  | some e =>
    exact ⟨now, Nat.le_refl _, Nat.le_add_right _ _, by rw [hr], fun t' h1 h2 => absurd h1 (Nat.not_le.mpr h2),
      by rw [hr]; intro h; cases h⟩
  | none =>
    obtain ⟨hp, hx, hne⟩ := tryReceive_none_iff.mp (congrArg Prod.fst hr)
    rw [tryReceive_none hp hne hx] at hr
    cases hr
    have ht : (folded q).timers = live q := rfl
    -- nothing at `now`: next comes the first pending timer
    have sleep : ∀ t, NoneDue t q → (tryReceive t q).1 = none := fun t h => by rw [tryReceive_none hp h hx]
    dsimp only
    rw [ht]
    cases hl : live q with
    | nil =>
      have hnone : ∀ t, NoneDue t q := fun t k e ts hl' => by rw [hl] at hl'; cases hl'
      exact ⟨now + d, Nat.le_add_right _ _, Nat.le_refl _, by rw [tryReceive_none hp (hnone _) hx],
        fun t' _ _ => sleep t' (hnone t'), fun _ => rfl⟩
    | cons x ts =>
      obtain ⟨k, e⟩ := x
      have hk : now < k.deadline := hne k e ts hl
      have before : ∀ t, t < k.deadline → NoneDue t q := fun t h k' e' ts' hl' => by
        rw [hl] at hl'; cases hl'; exact h
      dsimp only
      by_cases hd : k.deadline ≤ now + d
      · exact ⟨k.deadline, Nat.le_of_lt hk, hd, by rw [if_pos hd, tryReceive_timer hp hl (Nat.le_refl _)],
          fun t' _ h => sleep t' (before t' h), by rw [tryReceive_timer hp hl (Nat.le_refl _)]; intro h; cases h⟩
      · have := before (now + d) (Nat.lt_of_not_le hd)
        exact ⟨now + d, Nat.le_add_right _ _, Nat.le_refl _, by rw [if_neg hd, tryReceive_none hp this hx],
          fun t' _ h => sleep t' (noneDue_mono this (Nat.le_of_lt h)), fun _ => rfl⟩

theorem receiveTimeout_none_iff {now d : Nat} {q : Q E} :
    (receiveTimeout now d q).1 = none ↔ (tryReceive (now + d) q).1 = none := by
  obtain ⟨t, _, h2, hr, _, h4⟩ := receiveTimeout_spec now d q
  rw [hr]
  exact ⟨fun h => h4 h ▸ h, tryReceive_none_mono h2⟩

theorem receiveTimeout_sorted (now d : Nat) {q : Q E} (h : Sorted q.timers) :
    Sorted (receiveTimeout now d q).2.2.timers := by
  obtain ⟨t, _, _, hr, _⟩ := receiveTimeout_spec now d q
  rw [hr]
  exact tryReceive_sorted h

theorem receive_sorted {now : Nat} {q : Q E} (h : Sorted q.timers) {e : E} {t : Nat} {q2 : Q E}
    (hrec : receive now q = some (e, t, q2)) : Sorted q2.timers := by
  have := receiveTimeout_sorted now t h
  rwa [receiveTimeout_of_receive hrec (Nat.le_add_left t now)] at this

end Mio.EvQ
