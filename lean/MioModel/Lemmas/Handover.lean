import MioModel.Handover
import MioModel.Lemmas.Basic
/-! The hand-over model M4h.  Its invariant: cache followed by what still waits in the poller is every event so
far, in order, and `join()` hands over exactly the finished caching thread's cache.  Once the flag is cleared each
step of the caching thread lowers `remaining`, whatever else happens: that bounds the hand-over (C15). -/
namespace Mio.Handover

inductive Step (s : St) : Act → St → Prop
  | arrive : Step s .arrive { s with pending := s.pending ++ [s.next], next := s.next + 1 }
  | look (hc : s.cpc = .check) : Step s .cache { s with cpc := if s.flag then .poll else .done }
  | poll (hc : s.cpc = .poll) : Step s .cache { s with cache := s.cache ++ s.pending, pending := [], cpc := .check }
  | call (hl : s.lpc = .idle) : Step s .call { s with flag := false, lpc := .cleared }
  | join (hl : s.lpc = .cleared) (hc : s.cpc = .done) : Step s .join { s with lpc := .joined, taken := some s.cache }

theorem Step.of_step {s s' : St} {a : Act} (h : step s a = some s') : Step s a s' := by
  cases a <;> simp only [step] at h
  · cases h; exact .arrive
  · split at h <;> cases h
    · exact .look ‹_›
    · exact .poll ‹_›
  · split at h <;> cases h
    exact .call ‹_›
  · split at h <;> cases h
    exact .join (‹_ ∧ _›).1 (‹_ ∧ _›).2

structure Inv (s : St) : Prop where
  all : s.cache ++ s.pending = List.range s.next
  taken : ∀ c, s.taken = some c → c = s.cache ∧ s.cpc = .done ∧ s.lpc = .joined
  flag : s.flag = true ↔ s.lpc = .idle
  joined : s.lpc = .joined → s.cpc = .done ∧ s.taken = some s.cache

theorem inv_init : Inv {} := by
  constructor <;> simp

theorem step_inv {s s' : St} {a : Act} (h : Inv s) (hs : Step s a s') : Inv s' := by
  obtain ⟨hall, htk, hfl, hj⟩ := h
  cases hs with
  | arrive => exact ⟨by simp only [← List.append_assoc, hall, List.range_succ], htk, hfl, hj⟩
  -- while the cache thread still steps, or the call is yet to be made, nothing has been handed over
  | look hc =>
    have nd : s.cpc ≠ .done := by simp [hc]
    exact ⟨hall, fun c hc' => absurd (htk c hc').2.1 nd, hfl, fun hl => absurd (hj hl).1 nd⟩
  | poll hc =>
    have nd : s.cpc ≠ .done := by simp [hc]
    exact ⟨by simpa using hall, fun c hc' => absurd (htk c hc').2.1 nd, hfl, fun hl => absurd (hj hl).1 nd⟩
  | call hl => exact ⟨hall, fun c hc => absurd (htk c hc).2.2 (by simp [hl]), by simp, by simp⟩
  | join hl hc =>
    exact ⟨hall, fun c hc' => ⟨(Option.some.inj hc').symm, hc, rfl⟩, by simpa [hl] using hfl,
      fun _ => ⟨hc, rfl⟩⟩

theorem Reachable.induction {P : St → Prop} (h0 : P {}) (hstep : ∀ s s' a, P s → Step s a s' → P s')
    {s : St} (h : Reachable s) : P s :=
  let ⟨acts, hr⟩ := h
  run_induction (fun _ => rfl) (fun s a _ => by simp only [run]; cases step s a <;> rfl)
    (fun s s' a hp hs => hstep s s' a hp (Step.of_step hs)) acts _ s h0 hr

theorem reachable_inv (s : St) (h : Reachable s) : Inv s :=
  h.induction inv_init fun _ _ _ => step_inv

/-- With the flag cleared — and it stays cleared — a step of the cache thread strictly decreases
`remaining`, and no other action (in particular no number of arriving events) changes it. -/
theorem step_remaining (s s' : St) (a : Act) (hf : s.flag = false) (hs : step s a = some s') :
    s'.flag = false ∧ remaining s' + (if a = .cache then 1 else 0) = remaining s := by
  cases Step.of_step hs <;> simp [remaining, *]

theorem run_remaining : ∀ (acts : List Act) (s s' : St), s.flag = false → run s acts = some s' →
    remaining s' + acts.count .cache = remaining s
  | [], s, s', _, hr => by simp only [run, Option.some.injEq] at hr; subst hr; simp
  | a :: as, s, s', hf, hr => by
    simp only [run] at hr
    split at hr
    · rename_i s1 hs1
      obtain ⟨hf1, h1⟩ := step_remaining s s1 a hf hs1
      have h2 := run_remaining as s1 s' hf1 hr
      simp only [List.count_cons, beq_iff_eq]
      omega
    · cases hr

end Mio.Handover
