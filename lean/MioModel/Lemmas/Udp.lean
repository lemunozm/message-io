import MioModel.Udp
import MioModel.Lemmas.Basic
/-! Invariant of the UDP model M8: per socket, `reported events ++ still queued = accepted by the kernel =
what the send history says was sent to it`, byte for byte and in order. -/
namespace Mio.Udp

/-- the datagram an event stands for -/
def evDgram (e : Ev) : Dgram := ⟨e.ep.addr, e.data⟩

/-- does socket `j` (of kind `k`) get the datagram of this send call?  (The filter of `expected`, by name.) -/
def feeds (r : SendRec) (j : Nat) (k : Kind) : Bool :=
  decide (r.dst = j) && decide (r.status = .sent) && r.bound && kAccepts k r.src

theorem feeds_iff {r : SendRec} {j : Nat} {k : Kind} :
    feeds r j k = true ↔ r.dst = j ∧ r.status = .sent ∧ r.bound = true ∧ kAccepts k r.src = true := by
  simp [feeds, and_assoc]

/-- what the history of send calls says socket `j` (of kind `k`) must have been given -/
def expected (log : List SendRec) (j : Nat) (k : Kind) : List Dgram :=
  (log.filter (fun r => decide (r.dst = j) && decide (r.status = .sent) && r.bound && kAccepts k r.src)).map
    (fun r => ⟨r.src, r.data⟩)

/-- `kRecv` with the adapter's buffer `bufLen`: what `cutK k` is for every library socket (`cutK_lib`); a foreign
socket (`cutK .raw`) cuts nothing -/
def cut (d : Dgram) : Dgram := kRecv bufLen d

theorem cutK_src (k : Kind) (d : Dgram) : (cutK k d).src = d.src := by
  cases k <;> rfl

theorem cutK_lib (k : Kind) (hk : k ≠ .raw) (d : Dgram) : cutK k d = cut d := by
  cases k <;> first | rfl | exact absurd rfl hk

/-- Socket `j` in world `w`.  `split` (with `queued`): the events reported so far, then the queue, are the accepted
datagrams in order, each as the reader's buffer cuts it.  `exp`: the accepted datagrams are those the send history
feeds this socket.  `peer`, `rid`, `srcs` make an event name the right endpoint: a connected socket accepts from its
peer only, events carry this socket's id, sources are addresses of existing sockets. -/
structure SockInv (w : World) (j : Nat) (s : Sock) : Prop where
  peer : ∀ p, s.kind = .connected p → ∀ d ∈ s.accepted, d.src = p
  split : s.events.map evDgram ++ s.queue.map (cutK s.kind) = s.accepted.map (cutK s.kind)
  queued : ∀ d ∈ s.queue, d ∈ s.accepted
  rid : ∀ e ∈ s.events, e.ep.rid = j
  exp : s.accepted = expected w.log j s.kind
  srcs : ∀ d ∈ s.accepted, d.src < w.socks.length

/-- `bound`: a record that found a socket bound names an existing address (so a socket opened later starts with
nothing expected).  `kmaxGe`: the kernel's own limit is never the one that refuses a library send; `libSmall`: what
the library sent is within the declared maximum. -/
structure Inv (w : World) : Prop where
  socks : ∀ j s, w.socks[j]? = some s → SockInv w j s
  bound : ∀ r ∈ w.log, r.bound = true → r.dst < w.socks.length
  kmaxGe : maxLen ≤ w.kmax
  libSmall : ∀ r ∈ w.log, r.viaLibrary = true → r.status = .sent → r.data.length ≤ maxLen

theorem maxLen_le_buf : maxLen ≤ bufLen := by decide

theorem inv_init (v6 : Bool) : Inv (init v6) :=
  ⟨by intro j s h; simp [init] at h, by intro r h; simp [init] at h,
   by cases v6 <;> decide, by intro r h; simp [init] at h⟩

theorem hasErr_eq {socks : List Sock} {i : Nat} {s : Sock} (h : socks[i]? = some s) : hasErr socks i = s.err := by
  unfold hasErr; rw [h]

theorem deliverable_eq {socks : List Sock} {i : Nat} {s : Sock} (h : socks[i]? = some s) :
    deliverable socks i = s.alive := by
  unfold deliverable; rw [h]

theorem deliverable_lt (socks : List Sock) (dst : Nat) (h : deliverable socks dst = true) : dst < socks.length := by
  unfold deliverable at h
  cases hs : socks[dst]? with
  | none => rw [hs] at h; cases h
  | some s => exact (List.getElem?_eq_some_iff.mp hs).1

theorem length_enqueue (socks : List Sock) (dst : Nat) (d : Dgram) :
    (enqueue socks dst d).length = socks.length := List.length_modify ..

theorem getElem?_enqueue (socks : List Sock) (dst : Nat) (d : Dgram) (j : Nat) :
    (enqueue socks dst d)[j]? = (socks[j]?).map fun s =>
      if decide (dst = j) && s.alive && kAccepts s.kind d.src
      then { s with queue := s.queue ++ [d], accepted := s.accepted ++ [d] } else s := by
  unfold enqueue
  rw [List.getElem?_modify]
  cases socks[j]? with
  | none => rfl
  | some s => by_cases h : dst = j <;> simp [h]

theorem deliverable_enqueue_false (socks : List Sock) (dst : Nat) (d : Dgram) (h : deliverable socks dst = false) :
    enqueue socks dst d = socks := by
  apply List.ext_getElem?
  intro j
  rw [getElem?_enqueue]
  cases hs : socks[j]? with
  | none => rfl
  | some s =>
    by_cases hd : dst = j
    · subst hd; rw [deliverable_eq hs] at h; simp [h]
    · simp [hd]

theorem lib_dst (ep : Endpoint) {s : Sock} (hk : s.kind ≠ .raw) :
    ∃ dst, s.kind = .listener ∧ dst = ep.addr ∨ s.kind = .connected dst := by
  cases hkind : s.kind with
  | raw => exact absurd hkind hk
  | listener => exact ⟨ep.addr, .inl ⟨rfl, rfl⟩⟩
  | connected p => exact ⟨p, .inr rfl⟩

/-- `send` on a library socket in closed form.  `dst` is where the datagram goes: the endpoint's address
for a listener, the peer for a connected socket.  The adapter's size check makes the kernel's own unreachable. -/
theorem send_eq {w : World} {ep : Endpoint} {s : Sock} {dst : Nat} (data : Bytes) (hs : w.socks[ep.rid]? = some s)
    (hd : s.kind = .listener ∧ dst = ep.addr ∨ s.kind = .connected dst)
    (hk : data.length ≤ maxLen → data.length ≤ w.kmax) :
    send w ep data = record w ep.rid dst data
      (if maxLen < data.length then (w.socks, .maxPacketSizeExceeded)
       else if s.kind ≠ .listener ∧ s.err = true then (setErr w.socks ep.rid false, .resourceNotFound)
       else (if s.kind = .listener ∨ deliverable w.socks dst = true then enqueue w.socks dst ⟨ep.rid, data⟩
             else setErr (enqueue w.socks dst ⟨ep.rid, data⟩) ep.rid true, .sent)) := by
  unfold send sendPacket
  rw [hs]
  by_cases hl : maxLen < data.length
  · rcases hd with ⟨hd, rfl⟩ | hd <;> simp only [hd, if_pos hl]
  · have hk' := Nat.not_lt.mpr (hk (Nat.not_lt.mp hl))
    rcases hd with ⟨hd, rfl⟩ | hd
    · simp [hd, hl, kSend, hk']
    · cases he : s.err <;> cases hdl : deliverable w.socks dst <;>
        simp [hd, hl, kSendConn, hk', hasErr_eq hs, he, hdl]

theorem cut_of_small (d : Dgram) (h : d.data.length ≤ maxLen) : cut d = d := by
  unfold cut kRecv
  rw [List.take_of_length_le (Nat.le_trans h maxLen_le_buf)]

theorem recvLoop_map (i : Nat) (k : Kind) (q : List Dgram) :
    recvLoop i k q = q.map (fun d => evOf i k (cutK k d)) := by
  induction q with
  | nil => rfl
  | cons d q ih => rw [recvLoop, ih, List.map_cons]

theorem evDgram_evOf (i : Nat) (k : Kind) (d : Dgram) (hp : ∀ p, k = .connected p → d.src = p) :
    evDgram (evOf i k d) = d := by
  cases k with
  | connected p => cases hp p rfl; rfl
  | listener => rfl
  | raw => rfl

theorem expected_append (log : List SendRec) (r : SendRec) (j : Nat) (k : Kind) :
    expected (log ++ [r]) j k = expected log j k ++ (if feeds r j k then [⟨r.src, r.data⟩] else []) := by
  unfold expected
  rw [List.filter_append, List.map_append]
  congr 1
  show List.map _ (List.filter (fun r => feeds r j k) [r]) = _
  cases h : feeds r j k <;> simp [h]

theorem mem_expected {log : List SendRec} {j : Nat} {k : Kind} {d : Dgram} :
    d ∈ expected log j k ↔ ∃ r ∈ log, feeds r j k = true ∧ d = ⟨r.src, r.data⟩ := by
  unfold expected
  rw [List.mem_map]
  constructor
  · rintro ⟨r, hr, rfl⟩; exact ⟨r, (List.mem_filter.mp hr).1, (List.mem_filter.mp hr).2, rfl⟩
  · rintro ⟨r, hr, hf, rfl⟩; exact ⟨r, List.mem_filter.mpr ⟨hr, hf⟩, rfl⟩

section
variable {w w' : World} {j : Nat} {s : Sock} (h : SockInv w j s)
include h

theorem SockInv.event {e : Ev} (he : e ∈ s.events) : ∃ d ∈ s.accepted, cutK s.kind d = evDgram e :=
  List.mem_map.mp (h.split ▸ List.mem_append_left _ (List.mem_map_of_mem he))

theorem SockInv.world (hexp : expected w'.log j s.kind = expected w.log j s.kind)
    (hlen : w.socks.length ≤ w'.socks.length) : SockInv w' j s :=
  ⟨h.peer, h.split, h.queued, h.rid, h.exp.trans hexp.symm, fun d hd => Nat.lt_of_lt_of_le (h.srcs d hd) hlen⟩

theorem SockInv.flags (alive err : Bool) : SockInv w j { s with alive := alive, err := err } :=
  ⟨h.peer, h.split, h.queued, h.rid, h.exp, h.srcs⟩

theorem SockInv.push (d : Dgram) (hacc : kAccepts s.kind d.src = true)
    (hexp : expected w'.log j s.kind = expected w.log j s.kind ++ [d]) (hsrc : d.src < w'.socks.length)
    (hlen : w.socks.length ≤ w'.socks.length) :
    SockInv w' j { s with queue := s.queue ++ [d], accepted := s.accepted ++ [d] } where
  peer := fun p hp => forall_mem_snoc (h.peer p hp) (by
    rw [show s.kind = .connected p from hp] at hacc
    exact (beq_iff_eq.mp hacc).symm)
  split := by
    show _ ++ List.map _ (s.queue ++ [d]) = List.map _ (s.accepted ++ [d])
    rw [List.map_append, List.map_append, ← List.append_assoc, h.split]
  queued := forall_mem_snoc (fun x hx => List.mem_append_left _ (h.queued x hx))
    (List.mem_append_right _ (List.mem_singleton_self d))
  rid := h.rid
  exp := by show s.accepted ++ [d] = _; rw [hexp, h.exp]
  srcs := forall_mem_snoc (fun x hx => Nat.lt_of_lt_of_le (h.srcs x hx) hlen) hsrc

theorem SockInv.poll : SockInv w j { s with queue := [], events := s.events ++ recvLoop j s.kind s.queue } where
  peer := h.peer
  split := by
    have : (recvLoop j s.kind s.queue).map evDgram = s.queue.map (cutK s.kind) := by
      rw [recvLoop_map, List.map_map]
      apply List.map_congr_left
      intro d hd
      exact evDgram_evOf j s.kind _ fun p hk => (cutK_src ..).trans (h.peer p hk d (h.queued d hd))
    show List.map evDgram (s.events ++ _) ++ List.map _ [] = _
    rw [List.map_append, this, List.map_nil, List.append_nil]
    exact h.split
  queued := fun _ hd => nomatch hd
  rid := List.forall_mem_append.mpr ⟨h.rid, by
    rw [recvLoop_map, List.forall_mem_map]
    intro d _
    cases s.kind <;> rfl⟩
  exp := h.exp
  srcs := h.srcs

end

/-! ### the invariant, world by world: a step modifies one socket, or appends one record and hands its
datagram to the socket it feeds, or opens a socket -/

theorem inv_modify {w : World} (h : Inv w) (i : Nat) (f : Sock → Sock)
    (hf : ∀ s, SockInv w i s → SockInv w i (f s)) : Inv { w with socks := w.socks.modify i f } where
  kmaxGe := h.kmaxGe
  libSmall := h.libSmall
  bound := fun r hr hb => (List.length_modify ..).symm ▸ h.bound r hr hb
  socks := by
    intro j s' hj
    obtain ⟨s, hs, rfl⟩ := Option.map_eq_some_iff.mp ((List.getElem?_modify ..).symm.trans hj)
    refine SockInv.world (w := w) ?_ rfl (Nat.le_of_eq (List.length_modify ..).symm)
    split
    · next hij => subst hij; exact hf s (h.socks i s hs)
    · exact h.socks j s hs

theorem inv_poll {w : World} (h : Inv w) (i : Nat) : Inv (poll w i) :=
  inv_modify h i _ fun _ hs => hs.poll

theorem inv_setErr {w : World} (h : Inv w) (i : Nat) (b : Bool) : Inv { w with socks := setErr w.socks i b } :=
  inv_modify h i _ fun s hs => hs.flags s.alive b

theorem inv_append {w : World} (h : Inv w) (r : SendRec) (hsrc : r.src < w.socks.length)
    (hb : r.bound = deliverable w.socks r.dst)
    (hl : r.viaLibrary = true → r.status = .sent → r.data.length ≤ maxLen) :
    Inv { w with socks := if r.status = .sent then enqueue w.socks r.dst ⟨r.src, r.data⟩ else w.socks,
                 log := w.log ++ [r] } := by
  have hlen :
      (if r.status = .sent then enqueue w.socks r.dst ⟨r.src, r.data⟩ else w.socks).length = w.socks.length := by
    split
    · exact length_enqueue ..
    · rfl
  have hs : ∀ j, (if r.status = .sent then enqueue w.socks r.dst ⟨r.src, r.data⟩ else w.socks)[j]? =
      (w.socks[j]?).map fun s => if feeds r j s.kind
        then { s with queue := s.queue ++ [⟨r.src, r.data⟩], accepted := s.accepted ++ [⟨r.src, r.data⟩] }
        else s := by
    intro j
    split
    · next hst =>
      rw [getElem?_enqueue]
      cases hs : w.socks[j]? with
      | none => rfl
      | some s =>
        by_cases hd : r.dst = j
        · subst hd; simp [feeds, hst, hb, deliverable_eq hs]
        · simp [feeds, hd]
    · next hst =>
      cases w.socks[j]? with
      | none => rfl
      | some s => simp [feeds, hst]
  refine {
    kmaxGe := h.kmaxGe
    libSmall := forall_mem_snoc h.libSmall hl
    bound := forall_mem_snoc (fun x hx hxb => hlen ▸ h.bound x hx hxb)
      fun hxb => hlen ▸ deliverable_lt _ _ (hb ▸ hxb)
    socks := ?_ }
  intro j s' hj
  obtain ⟨s, hs0, rfl⟩ := Option.map_eq_some_iff.mp ((hs j).symm.trans hj)
  have he := expected_append w.log r j s.kind
  by_cases hf : feeds r j s.kind = true
  · rw [if_pos hf] at he ⊢
    exact (h.socks j s hs0).push _ (feeds_iff.mp hf).2.2.2 he (hlen ▸ hsrc) (Nat.le_of_eq hlen.symm)
  · rw [if_neg hf] at he ⊢
    exact (h.socks j s hs0).world (he.trans (List.append_nil _)) (Nat.le_of_eq hlen.symm)

theorem inv_open {w : World} (h : Inv w) (k : Kind) :
    Inv { w with socks := w.socks ++ [{ kind := k }] } where
  kmaxGe := h.kmaxGe
  libSmall := h.libSmall
  bound := fun r hr hb => Nat.lt_of_lt_of_le (h.bound r hr hb) (by rw [List.length_append]; exact Nat.le_add_right ..)
  socks := by
    intro j s hj
    have hj' : (w.socks ++ [({ kind := k } : Sock)])[j]? = some s := hj
    rw [List.getElem?_append] at hj'
    split at hj'
    · exact (h.socks j s hj').world rfl (by rw [List.length_append]; exact Nat.le_add_right ..)
    · next hlt =>
      rw [List.getElem?_singleton] at hj'
      split at hj'
      · next h0 =>
        cases hj'
        cases (by omega : j = w.socks.length)
        have hnone : expected w.log w.socks.length k = [] := by
          refine List.eq_nil_iff_forall_not_mem.mpr fun d hd => ?_
          obtain ⟨r, hr, hf, _⟩ := mem_expected.mp hd
          obtain ⟨hdst, _, hb, _⟩ := feeds_iff.mp hf
          exact Nat.lt_irrefl _ (hdst ▸ h.bound r hr hb)
        exact ⟨nofun, rfl, nofun, nofun, hnone.symm, nofun⟩
      · cases hj'

theorem inv_send {w : World} (h : Inv w) (ep : Endpoint) (data : Bytes) : Inv (send w ep data).1 := by
  cases hs : w.socks[ep.rid]? with
  | none => unfold send; rw [hs]; exact h
  | some s =>
    by_cases hk : s.kind = .raw
    · unfold send; rw [hs]; simp only [hk]; exact h
    · obtain ⟨dst, hd⟩ := lib_dst ep hk
      have hlog := fun st hl => inv_append h ⟨ep.rid, dst, data, st, deliverable w.socks dst, true⟩
        (List.getElem?_eq_some_iff.mp hs).1 rfl fun _ => hl
      rw [send_eq data hs hd fun hl => Nat.le_trans hl h.kmaxGe]
      split
      · exact hlog .maxPacketSizeExceeded nofun
      · next hl =>
        have hsent := hlog .sent fun _ => Nat.not_lt.mp hl
        split
        · exact inv_setErr (hlog .resourceNotFound nofun) ..
        · split
          · exact hsent
          · exact inv_setErr hsent ..

theorem inv_rawSend {w : World} (h : Inv w) (i dst : Nat) (data : Bytes) : Inv (rawSend w i dst data) := by
  unfold rawSend
  cases hs : w.socks[i]? with
  | none => exact h
  | some s =>
    have hlog := fun st => inv_append h ⟨i, dst, data, st, deliverable w.socks dst, false⟩
      (List.getElem?_eq_some_iff.mp hs).1 rfl nofun
    simp only [kSend]
    split
    · exact hlog .maxPacketSizeExceeded
    · exact hlog .sent

theorem inv_step {w : World} (h : Inv w) (a : Act) : Inv (step w a) := by
  cases a with
  | openListener => exact inv_open h .listener
  | openConnected p => exact inv_open h (.connected p)
  | openRaw => exact inv_open h .raw
  | send ep data => exact inv_send h ep data
  | rawSend i dst data => exact inv_rawSend h i dst data
  | poll i => exact inv_poll h i
  | close i => exact inv_modify (inv_poll h i) i _ fun s hs => hs.flags false s.err
  | reopen i => exact inv_modify h i _ fun s hs => hs.flags true s.err

theorem reachable_inv (w : World) (h : Reachable w) : Inv w := by
  obtain ⟨v6, acts, rfl⟩ := h
  exact List.foldlRecOn acts step (inv_init v6) fun _ hw a _ => inv_step hw a

end Mio.Udp
