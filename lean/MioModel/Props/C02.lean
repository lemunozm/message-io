import MioModel.Lemmas.Decoder
/-! # C02 — Frame decoder output is independent of how the byte stream is chunked

Model: `MioModel/Varint.lean`, `MioModel/Decoder.lean` (src/util/encoding.rs and integer-encoding's
u64 varint). -/
namespace Mio.C02
open Mio Mio.Generated

/-- The prefix produced for a payload of `n` bytes decodes back to `n`, consuming exactly the prefix,
whatever follows it. (`n < 2^64`: `usize` on the 64-bit targets the crate is built for.) -/
theorem decodeVar_encodeVar (n : Nat) (h : n < 2 ^ 64) (rest : Bytes) :
    decodeVar (encodeVar n ++ rest) = some (n, (encodeVar n).length) :=
  Mio.decodeVar_encodeVar n h rest

/-- The prefix always fits the buffer `encode_size` is given (`MAX_ENCODED_SIZE`, regenerated from
the crate on every run). -/
theorem encodeVar_length_le (n : Nat) (h : n < 2 ^ 64) : (encodeVar n).length ≤ maxEncodedSize :=
  Mio.encodeVar_length_le n h

/-- Canonical, part 1: LEB128 shape — every byte but the last has the continuation bit, the last
has not (so the prefix is self-delimiting). -/
theorem encodeVar_shape (n : Nat) :
    ∃ a x, encodeVar n = a ++ [x] ∧ (∀ y ∈ a, 128 ≤ y.toNat) ∧ x.toNat < 128 :=
  Mio.encodeVar_shape n

/-- Canonical, part 2: minimal — no byte string that decodes (entirely) to `n` is shorter than the
prefix produced for `n`. -/
theorem encodeVar_minimal (bs : Bytes) (n : Nat) (h : decodeVar bs = some (n, bs.length)) :
    (encodeVar n).length ≤ bs.length := by
  have hu := decodeVar_used_le h
  have hv := decodeVarAux_value_lt bs 0 0 n bs.length rfl Nat.one_pos h
  exact encodeVar_length_le_of_lt bs.length n hv (by omega)

/-- Main theorem: for every message list and every way to cut the concatenation of their frames
into chunks (empty chunks included), feeding the chunks to a fresh decoder never panics and yields
exactly the messages, in order, one callback each, with nothing left buffered. -/
theorem feed_chunking_independent (ms : List Bytes) (hms : ∀ m ∈ ms, m.length < 2 ^ 64)
    (chunks : List Bytes) (h : chunks.flatten = frames ms) : feed [] chunks = some ([], ms) :=
  Mio.feed_chunking_independent ms hms chunks h

/-- At every point of a well-formed stream: the callbacks so far are a prefix of the message list
and the buffer holds exactly the received part of the frame in progress (nothing when the chunks end
on a frame boundary is the previous theorem). -/
theorem feed_stream_prefix (ms : List Bytes) (hms : ∀ m ∈ ms, m.length < 2 ^ 64)
    (chunks : List Bytes) (r : Bytes) (h : chunks.flatten ++ r = frames ms) :
    ∃ k p, feed [] chunks = some (p, ms.take k) ∧ p ++ r = frames (ms.drop k) := by
  obtain ⟨k, p, h1, h2, _⟩ := feed_prefix_general chunks ms [] r hms (Or.inl rfl) h
  exact ⟨k, p, h1, h2⟩

/-! Non-vacuity: a concrete message list with an empty message, a 200-byte message whose 2-byte
prefix `c8 01` is cut in the middle, and a payload byte that looks like a prefix. -/
def exMs : List Bytes := [[], List.replicate 200 0x80, [0xff]]
def exChunks : List Bytes := [[0x00, 0xc8], [0x01, 0x80, 0x80, 0x80], List.replicate 197 0x80 ++ [0x01, 0xff]]
theorem ex_lens : ∀ m ∈ exMs, m.length < 2 ^ 64 := by decide +kernel
theorem ex_encode_200 : encodeVar 200 = [0xc8, 0x01] := by
  rw [encodeVar]; simp; rw [encodeVar]; simp
theorem ex_encode_0 : encodeVar 0 = [0x00] := by rw [encodeVar]; simp
theorem ex_encode_1 : encodeVar 1 = [0x01] := by rw [encodeVar]; simp
/-- the chunks really are a cut of the frames of `exMs` (inside the two-byte prefix `c8 01`) -/
theorem ex_cut : exChunks.flatten = frames exMs := by
  simp only [frames, frame, exMs, List.map, List.length_replicate, List.length_nil, List.length_cons,
    ex_encode_200, ex_encode_0, exChunks]
  decide +kernel
example : feed [] exChunks = some ([], exMs) := by decide +kernel
example : feed [] exChunks = some ([], exMs) := feed_chunking_independent exMs ex_lens exChunks ex_cut

end Mio.C02
