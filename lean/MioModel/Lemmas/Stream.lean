import MioModel.Stream
import MioModel.Lemmas.Decoder
/-! The receive side of M2: what a legal read schedule makes `recvLoop` do, for any consumer
(`recvLoop_spec`), the same over the poll events of a connection (`session_spec`), and the WebSocket
loop.  The send loops are in `SendLoop`. -/
namespace Mio.Stream
open Mio

theorem take_min_prefix {α} (l : List α) (k : Nat) : l.take (min k l.length) = l.take k :=
  List.take_eq_take_min.symm

theorem recvLoop_conservation {σ : Type} (cap : Nat) (consume : σ → Bytes → Option (σ × List Bytes))
    (hcons : ∀ st c st' outs, consume st c = some (st', outs) → True) :
    True := trivial

variable {σ : Type}

/-- a consumer run over a list of chunks: `feed` for an arbitrary `consume` -/
def feedWith (consume : σ → Bytes → Option (σ × List Bytes)) : σ → List Bytes → Option (σ × List Bytes)
  | st, [] => some (st, [])
  | st, c :: cs => (consume st c).bind fun p => (feedWith consume p.1 cs).map fun q => (q.1, p.2 ++ q.2)

theorem feed_eq_feedWith : ∀ (cs : List Bytes) (st : Bytes), feed st cs = feedWith (fun st c => decode st c) st cs
  | [], _ => rfl
  | c :: cs, st => by
    rw [feed, feedWith]
    cases decode st c with
    | none => rfl
    | some p =>
      dsimp only [Option.bind_some]
      rw [feed_eq_feedWith cs]
      cases feedWith _ p.1 cs <;> rfl

theorem feedWith_tcp : ∀ (cs : List Bytes), feedWith (fun (_ : Unit) c => some ((), [c])) () cs = some ((), cs)
  | [] => rfl
  | c :: cs => by rw [feedWith, Option.bind_some, feedWith_tcp cs]; rfl

theorem length_take_bounds {cap k : Nat} {rx : Bytes} (h1 : 1 ≤ k) (h2 : k ≤ min cap rx.length) :
    1 ≤ (rx.take k).length ∧ (rx.take k).length ≤ cap := by
  rw [List.length_take, Nat.min_eq_left (Nat.le_trans h2 (Nat.min_le_right _ _))]
  exact ⟨h1, Nat.le_trans h2 (Nat.min_le_left _ _)⟩

variable {consume : σ → Bytes → Option (σ × List Bytes)}

theorem feedWith_append : ∀ (a b : List Bytes) (s s1 s2 : σ) (o1 o2 : List Bytes),
    feedWith consume s a = some (s1, o1) → feedWith consume s1 b = some (s2, o2) →
    feedWith consume s (a ++ b) = some (s2, o1 ++ o2)
  | [], b, s, s1, s2, o1, o2, h1, h2 => by cases h1; exact h2
  | x :: xs, b, s, s1, s2, o1, o2, h1, h2 => by
    rw [feedWith] at h1
    obtain ⟨⟨sx, ox⟩, hx, h1⟩ := Option.bind_eq_some_iff.1 h1
    obtain ⟨⟨sy, oy⟩, hy, h1⟩ := Option.map_eq_some_iff.1 h1
    cases h1
    rw [List.cons_append, feedWith, hx, Option.bind_some, feedWith_append xs b sx sy s2 oy o2 hy h2,
      Option.map_some, List.append_assoc]

/-- What a legal read schedule makes the loop do, for any consumer: the bytes taken off the socket are
cut, in order, into non-empty chunks of at most the buffer size and fed to the consumer — the loop
panics exactly if the consumer fails on them — and `WaitNextEvent` is reported only when nothing
readable is left. -/
theorem recvLoop_spec (cap : Nat) (sched : List RAns) (st : σ) (rx : Bytes) (fin : Bool)
    (hl : LegalR cap rx fin sched) :
    let r := recvLoop cap consume st rx sched
    (∃ chunks, chunks.flatten ++ r.rx = rx ∧ (∀ c ∈ chunks, 1 ≤ c.length ∧ c.length ≤ cap) ∧
      feedWith consume st chunks = if r.panicked then none else some (r.st, r.outs)) ∧
    (r.status = some .waitNextEvent → r.rx = [] ∧ r.panicked = false) := by
  -- the arms of `recvLoop`: 1 `[]`, 2 interrupted, 3 wouldBlock, 4 eof, 5 reset, 6 error,
  -- 7 take and the consumer fails, 8 take and the consumer succeeds
  fun_induction recvLoop cap consume st rx sched with
  | case1 | case4 | case5 | case6 => exact ⟨⟨[], rfl, nofun, rfl⟩, nofun⟩
  | case2 st rx as ih => exact ih hl
  | case3 st rx as => exact ⟨⟨[], rfl, nofun, rfl⟩, fun _ => ⟨hl, rfl⟩⟩
  | case7 st rx as k k' hc =>
    obtain ⟨h1, h2, h3⟩ := hl
    have hk : k' = k := Nat.min_eq_left h2
    refine ⟨⟨[rx.take k'], ?_, fun c hc => ?_, by rw [feedWith, hc]; rfl⟩, nofun⟩
    · rw [List.flatten_cons, List.flatten_nil, List.append_nil, List.take_append_drop]
    · rw [List.mem_singleton.1 hc, hk]; exact length_take_bounds h1 h2
  | case8 st rx as k k' st' outs hc r ih =>
    obtain ⟨h1, h2, h3⟩ := hl
    have hk : k' = k := Nat.min_eq_left h2
    obtain ⟨⟨chunks, i1, i2, i3⟩, i4⟩ := ih (hk ▸ h3)
    refine ⟨⟨rx.take k' :: chunks, ?_, List.forall_mem_cons.2 ⟨hk ▸ length_take_bounds h1 h2, i2⟩, ?_⟩,
      i4⟩
    · rw [List.flatten_cons, List.append_assoc, i1, List.take_append_drop]
    · rw [feedWith, hc, Option.bind_some, i3]
      cases r.panicked <;> rfl

theorem tcp_recv_chunks (cap : Nat) : ∀ (sched : List RAns) (rx : Bytes) (fin : Bool),
    LegalR cap rx fin sched →
    let r := recvLoop cap (fun (_ : Unit) c => some ((), [c])) () rx sched
    r.outs.flatten ++ r.rx = rx ∧ (∀ o ∈ r.outs, 1 ≤ o.length ∧ o.length ≤ cap) ∧ r.panicked = false := by
  intro sched rx fin hl
  obtain ⟨⟨chunks, h1, h2, h3⟩, _⟩ :=
    recvLoop_spec (consume := fun (_ : Unit) c => some ((), [c])) cap sched () rx fin hl
  rw [feedWith_tcp] at h3
  split at h3
  · cases h3
  · next hp => cases h3; exact ⟨h1, h2, Bool.eq_false_iff.2 hp⟩

theorem recv_drains (cap : Nat) (sched : List RAns) (st : σ) (rx : Bytes) (fin : Bool)
    (hl : LegalR cap rx fin sched) (h : (recvLoop cap consume st rx sched).status = some .waitNextEvent) :
    (recvLoop cap consume st rx sched).rx = [] :=
  ((recvLoop_spec cap sched st rx fin hl).2 h).1

theorem framed_recv_feed (cap : Nat) (sched : List RAns) (dec rx : Bytes) (fin : Bool)
    (hl : LegalR cap rx fin sched) (hi : DecInv dec) :
    let r := recvLoop cap (fun st c => decode st c) dec rx sched
    r.panicked = false ∧ DecInv r.st ∧
      ∃ chunks, chunks.flatten ++ r.rx = rx ∧ feed dec chunks = some (r.st, r.outs) := by
  obtain ⟨⟨chunks, h1, _, h3⟩, _⟩ :=
    recvLoop_spec (consume := fun st c => decode st c) cap sched dec rx fin hl
  obtain ⟨st', outs, hf, hi'⟩ := feed_total_general chunks dec hi
  rw [← feed_eq_feedWith, hf] at h3
  split at h3
  · cases h3
  · next hp => cases h3; exact ⟨Bool.eq_false_iff.2 hp, hi', chunks, h1, hf⟩

theorem feed_append (a b : List Bytes) (s s1 s2 : Bytes) (o1 o2 : List Bytes) :
    feed s a = some (s1, o1) → feed s1 b = some (s2, o2) → feed s (a ++ b) = some (s2, o1 ++ o2) := by
  rw [feed_eq_feedWith, feed_eq_feedWith, feed_eq_feedWith]
  exact feedWith_append a b s s1 s2 o1 o2

/-- every event's schedule is legal for what is readable then, and every event ends `WaitNextEvent`
(the connection stays up) -/
def LegalSession {σ : Type} (cap : Nat) (consume : σ → Bytes → Option (σ × List Bytes)) :
    ConnSt σ → List PollEv → Prop
  | _, [] => True
  | c, e :: es =>
    let r := recvLoop cap consume c.st (c.rx ++ e.arrived) e.sched
    LegalR cap (c.rx ++ e.arrived) false e.sched ∧ r.status = some .waitNextEvent ∧
      LegalSession cap consume
        { st := r.st, rx := r.rx, outs := c.outs ++ r.outs, lastStatus := r.status,
          panicked := c.panicked || r.panicked } es

theorem session_spec (cap : Nat) : ∀ (evs : List PollEv) (c : ConnSt σ),
    LegalSession cap consume c evs → c.rx = [] →
    let f := session cap consume c evs
    f.rx = [] ∧ f.panicked = c.panicked ∧
      ∃ chunks outs, chunks.flatten = (evs.map (·.arrived)).flatten ∧ f.outs = c.outs ++ outs ∧
        feedWith consume c.st chunks = some (f.st, outs)
  | [], c, _, hrx => ⟨hrx, rfl, [], [], rfl, (List.append_nil _).symm, rfl⟩
  | e :: es, c, hl, hrx => by
    obtain ⟨hl1, hl2, hl3⟩ := hl
    obtain ⟨⟨chunks, p1, _, p2⟩, p3⟩ :=
      recvLoop_spec (consume := consume) cap e.sched c.st (c.rx ++ e.arrived) false hl1
    obtain ⟨hdr, hp⟩ := p3 hl2
    obtain ⟨q1, q2, chunks2, outs2, q3, q4, q5⟩ := session_spec cap es _ hl3 hdr
    rw [hdr, List.append_nil, hrx, List.nil_append] at p1
    rw [hp] at p2
    refine ⟨q1, ?_, chunks ++ chunks2, _, ?_, ?_, feedWith_append chunks chunks2 c.st _ _ _ _ p2 q5⟩
    · rw [session, q2, hp, Bool.or_false]
    · rw [List.flatten_append, p1, q3, List.map_cons, List.flatten_cons]
    · rw [session, q4, List.append_assoc]

/-- the user-visible payloads of a list of WebSocket messages (control messages carry none) -/
def binaries (ms : List WsMsg) : List Bytes := ms.filterMap id

theorem binaries_append (a b : List WsMsg) : binaries (a ++ b) = binaries a ++ binaries b := by
  simp [binaries, List.filterMap_append]

theorem wsReceive_order (fuel : Nat) (c : WsConn) (sched : List WsAns) :
    (wsReceive c sched fuel).outs ++ binaries ((wsReceive c sched fuel).conn.buf ++ (wsReceive c sched fuel).conn.sock)
      = binaries (c.buf ++ c.sock) := by
  -- the arms of `wsReceive`: 1 no fuel; a buffered message: 2 Binary, 3 other; nothing buffered: 4 `[]`,
  -- 5 wouldBlock, 6 close, 7 a `fill` that takes nothing; a `fill` whose first message is 8 Binary, 9 other
  fun_induction wsReceive c sched fuel with
  | case1 | case4 | case5 | case6 | case7 => rfl
  | case2 c sched fuel ms r data hb ih => rw [hb]; exact congrArg (data :: ·) ih
  | case3 c sched fuel ms r hb ih => rw [hb]; exact ih
  | case8 c fuel hb k as k' ms r data ht ih =>
    rw [hb, List.nil_append, ← List.take_append_drop k' c.sock, ht]
    exact congrArg (data :: ·) ih
  | case9 c fuel hb k as k' ms r ht ih =>
    rw [hb, List.nil_append, ← List.take_append_drop k' c.sock, ht]
    exact ih

/-- `LegalWs` reads `sock` only; `buf := []` is the shape of its own recursive call -/
theorem wsReceive_drains : ∀ (fuel : Nat) (c : WsConn) (sched : List WsAns),
    LegalWs { c with buf := [] } sched →
    (wsReceive c sched fuel).status = some .waitNextEvent →
    (wsReceive c sched fuel).conn.sock = [] ∧ (wsReceive c sched fuel).conn.buf = [] := by
  intro fuel c sched hl h
  fun_induction wsReceive c sched fuel with
  | case1 | case4 | case6 | case7 => cases h
  | case2 c sched fuel ms r data hb ih | case3 c sched fuel ms r hb ih => exact ih hl h
  | case5 c fuel hb tail => exact ⟨hl, hb⟩
  | case8 c fuel hb k as k' ms r data ht ih | case9 c fuel hb k as k' ms r ht ih =>
    obtain ⟨h1, (h2 : k ≤ c.sock.length), h3⟩ := hl
    have hk : k' = k := by omega
    exact ih (hk ▸ h3) h

end Mio.Stream
