import MioModel.Lemmas.Net
import MioModel.Lemmas.NodeOrder
import MioModel.Udp
/-! # C03 — Connection lifecycle events follow one well-formed sequence per endpoint

Model M5 (`MioModel/Net.lean`): every theorem is about all states reachable by any schedule of user
calls (from any thread, including from inside callbacks), poll events (including stale ones) and
adapter answers. -/
namespace Mio.C03
open Mio.Net

/-- the lifecycle automaton never reaches its error state: for an endpoint returned by `connect()`
the events are `ε | Connected(true) Message* Disconnected? | Connected(false)`, for an accepted one
`ε | Accepted(listener) Message* Disconnected?`; in particular nothing follows `Disconnected` or
`Connected(false)`, `Message` only follows `Connected(true)`/`Accepted`, and each of `Connected`,
`Accepted`, `Disconnected` occurs at most once -/
theorem lifecycle_wellformed (s : St) (h : Reachable s) :
    ∀ r ∈ s.regs, phaseOf r s.log ≠ .bad :=
  fun r hr => ((reachable_inv s h).good r hr).ne_bad

/-! What the automaton accepts, read off its table. -/

theorem phaseStep_bad (l : Option Nat) (e : Ev) : phaseStep l .bad e = .bad := by
  cases e <;> rfl

theorem foldl_bad (l : Option Nat) (evs : List Ev) : evs.foldl (phaseStep l) .bad = .bad := by
  induction evs with
  | nil => rfl
  | cons e es ih => rw [List.foldl_cons, phaseStep_bad, ih]

theorem phaseStep_ended (l : Option Nat) (e : Ev) : phaseStep l .ended e = .bad := by
  cases e <;> rfl

theorem foldl_phaseStep_ne_bad {l : Option Nat} {p : Phase} {pre post : List Ev} {e : Ev}
    (h : (pre ++ e :: post).foldl (phaseStep l) p ≠ .bad) :
    phaseStep l (pre.foldl (phaseStep l) p) e ≠ .bad ∧
    (phaseStep l (pre.foldl (phaseStep l) p) e = .ended → post = []) := by
  rw [List.foldl_append, List.foldl_cons] at h
  refine ⟨fun hb => h (by rw [hb, foldl_bad]), fun he => ?_⟩
  cases post with
  | nil => rfl
  | cons y ys => rw [he, List.foldl_cons, phaseStep_ended, foldl_bad] at h; exact absurd rfl h

theorem origin_of_phaseStep {l : Option Nat} {p : Phase} {e : Ev} (h : phaseStep l p e ≠ .bad) :
    (∀ i ok, e = .connected i ok → l = none) ∧ (∀ i l', e = .accepted i l' → l = some l') := by
  unfold phaseStep at h
  split at h
  · exact ⟨fun _ _ _ => Decidable.byContradiction fun hl => h (if_neg hl), nofun⟩
  · exact ⟨fun _ _ _ => Decidable.byContradiction fun hl => h (if_neg hl), nofun⟩
  · refine ⟨nofun, fun _ _ he => ?_⟩
    cases he; exact Decidable.byContradiction fun hl => h (if_neg hl)
  · exact ⟨nofun, nofun⟩
  · exact ⟨nofun, nofun⟩
  · exact absurd rfl h

/-- `Connected(endpoint, _)` is only ever reported for an endpoint that `connect()` returned, and
`Accepted(endpoint, listener)` names the listener that accepted that endpoint -/
theorem event_names_its_origin (s : St) (h : Reachable s) (r : Reg) (hr : r ∈ s.regs) :
    (∀ ok, Ev.connected r.id ok ∈ s.log → r.listener = none) ∧
    (∀ l, Ev.accepted r.id l ∈ s.log → r.listener = some l) := by
  have origin : ∀ e ∈ s.log, e.rid = some r.id →
      (∀ i ok, e = .connected i ok → r.listener = none) ∧
      (∀ i l', e = .accepted i l' → r.listener = some l') := by
    intro e he hid
    have hm : e ∈ proj r.id s.log := List.mem_filter.mpr ⟨he, decide_eq_true hid⟩
    obtain ⟨pre, post, hsplit⟩ := List.append_of_mem hm
    have hne := lifecycle_wellformed s h r hr
    rw [phaseOf, hsplit] at hne
    exact origin_of_phaseStep (foldl_phaseStep_ne_bad hne).1
  exact ⟨fun ok hm => (origin _ hm rfl).1 _ _ rfl, fun l hm => (origin _ hm rfl).2 _ _ rfl⟩

/-- every event about a remote endpoint is about a registered resource (no event for connections
that never existed) -/
theorem events_only_for_registered (s : St) (h : Reachable s) :
    ∀ e ∈ s.log, ∀ id, e.rid = some id → ∃ r ∈ s.regs, r.id = id := by
  intro e he id hid
  have : id ∈ s.regs.map (·.id) := by
    rw [(reachable_ids s h).ids]; exact List.mem_range.mpr ((reachable_inv s h).logIds e he id hid)
  simpa using this

/-- after the end of an endpoint (`Disconnected`, or `Connected(false)`) it never appears in an event
again -/
theorem nothing_after_end (s : St) (h : Reachable s) (r : Reg) (hr : r ∈ s.regs) (pre post : List Ev) (e : Ev)
    (hsplit : proj r.id s.log = pre ++ e :: post)
    (he : (∃ i, e = .disconnected i) ∨ (∃ i, e = .connected i false)) : post = [] := by
  have hne := lifecycle_wellformed s h r hr
  rw [phaseOf, hsplit] at hne
  obtain ⟨hne, hlast⟩ := foldl_phaseStep_ne_bad hne
  -- whatever the phase before `e`, the phase after it is `ended` or `bad`
  refine hlast ?_
  generalize pre.foldl (phaseStep r.listener) .init = p at hne ⊢
  rcases he with ⟨i, rfl⟩ | ⟨i, rfl⟩
  · cases p <;> first | rfl | exact absurd rfl hne
  · cases p <;> first | exact absurd rfl hne | skip
    exact if_pos ((origin_of_phaseStep hne).1 _ _ rfl)

/-- `Message` (and `Disconnected`) are only reported for an endpoint whose `Connected(.., true)` or
`Accepted` was reported before: the first event of every endpoint is its establishment (or its
failure) -/
theorem first_event_is_establishment (s : St) (h : Reachable s) (r : Reg) (hr : r ∈ s.regs) (x : Ev)
    (xs : List Ev) (hsplit : proj r.id s.log = x :: xs) :
    (x = .connected r.id true ∧ r.listener = none) ∨ (x = .connected r.id false ∧ xs = []) ∨
    (∃ l, x = .accepted r.id l ∧ r.listener = some l) := by
  have hne := lifecycle_wellformed s h r hr
  rw [phaseOf, hsplit] at hne
  obtain ⟨hne, hlast⟩ := foldl_phaseStep_ne_bad (pre := []) hne
  have hxid : x.rid = some r.id :=
    of_decide_eq_true (List.mem_filter.mp (hsplit ▸ List.mem_cons_self : x ∈ proj r.id s.log)).2
  cases x with
  | connected i ok =>
    cases Option.some.inj hxid
    have hl := (origin_of_phaseStep hne).1 _ _ rfl
    cases ok with
    | true => exact .inl ⟨rfl, hl⟩
    | false => exact .inr (.inl ⟨rfl, hlast (by simp [phaseStep, hl])⟩)
  | accepted i l => cases Option.some.inj hxid; exact .inr (.inr ⟨l, rfl, (origin_of_phaseStep hne).2 _ _ rfl⟩)
  | message i => exact absurd rfl hne
  | data l p => cases hxid
  | disconnected i => exact absurd rfl hne

/-- a failed inbound handshake yields no event at all: an accepted resource that was never marked
ready never appears in the log -/
theorem failed_inbound_silent (s : St) (h : Reachable s) (r : Reg) (hr : r ∈ s.regs)
    (hacc : r.listener ≠ none) (hnr : r.ready = false) : proj r.id s.log = [] :=
  ((reachable_inv s h).good r hr).silent hacc hnr

/-- the UDP adapter's contract (what M8's adapter does: `udp_adapter_contract`) -/
def UdpAct : Act → Prop
  | .pending ans => ans = .ready
  | .beginReceive _ disc => disc = false
  | .pollLocal _ remotes _ => remotes = []
  | _ => True

/-- what `udp_lifecycle` keeps -/
def UdpLog (s : St) : Prop :=
  (∀ e ∈ s.log, (∃ id, e = .connected id true) ∨ (∃ id, e = .message id) ∨ (∃ l p, e = .data l p)) ∧
  (∀ r ∈ s.regs, r.listener = none) ∧
  (match s.proc with
   | .receiving _ _ disc => disc = false
   | .afterReceive _ disc => disc = false
   | .accepting _ remotes _ => remotes = []
   | _ => True)

theorem udp_step (s s' : St) (a : Act) (ha : UdpAct a) (hu : UdpLog s) (hs : step s a = some s') : UdpLog s' := by
  unfold UdpLog at hu ⊢
  obtain ⟨u1, u2, u3⟩ := hu
  cases Step.of_step hs with
  | connect peer => exact ⟨u1, forall_mem_snoc u2 rfl, u3⟩
  | pendingReady id read r hp hf hr =>
    have hl : r.listener = none := u2 r (findReg_some hf).1
    refine ⟨forall_mem_snoc u1 (Or.inl ⟨id, by rw [hl]; rfl⟩), ?_, trivial⟩
    show ∀ x ∈ s.regs.map _, Reg.listener x = none
    rw [List.forall_mem_map]
    intro x hx
    split <;> exact u2 x hx
  -- the adapter's contract (`UdpAct`, and what it left in `proc`) rules these out
  | pendingIncomplete | pendingRefused | pendingDropped => cases ha
  | finishDisc id hp hl | acceptConn lid peer rest datas hp => rw [hp] at u3; cases u3
  | beginRead | pollLocal => exact ⟨u1, u2, ha⟩
  | deliver id left disc hp => rw [hp] at u3; exact ⟨forall_mem_snoc u1 (Or.inr (Or.inl ⟨id, rfl⟩)), u2, u3⟩
  | endReceive id disc hp => rw [hp] at u3; exact ⟨u1, u2, u3⟩
  | acceptData lid peer rest hp => exact ⟨forall_mem_snoc u1 (Or.inr (Or.inr ⟨lid, peer, rfl⟩)), u2, rfl⟩
  | pollRemote | checkReady | beginWrite | beginNotReady | finishIdle | acceptDone => exact ⟨u1, u2, trivial⟩
  | _ => exact ⟨u1, u2, u3⟩

/-- UDP: under the UDP adapter's contract no `Accepted`, no `Disconnected` and no `Connected(.., false)` is
ever reported -/
theorem udp_lifecycle : ∀ (acts : List Act) (s s' : St), (∀ a ∈ acts, UdpAct a) → UdpLog s →
    run s acts = some s' → UdpLog s' :=
  run_preserves_on udp_step

/-- `connect_sync` polls `is_ready`: once it saw `Some(true)` the connection is immediately usable —
a `send` issued in that state is handed to the adapter (never `ResourceNotAvailable`/`NotFound`) -/
theorem connect_sync_ok_usable (s s1 s2 : St) (id : Nat) (a : Status)
    (h1 : step s (.isReady id) = some s1) (hres : s1.results.getLast? = some ("isReady", id, "Some(true)"))
    (h2 : step s1 (.send id a) = some s2) : s2.results.getLast? = some ("send", id, showStatus a) := by
  by_cases hl : id ∈ s.live
  · cases hf : findReg s id with
    | some r =>
      cases (step_isReady_of_find hl hf).symm.trans h1
      have hready : r.ready = true := by
        rw [getLast?_record] at hres
        cases hr : r.ready <;> simp [hr] at hres ⊢
      cases (step_send_of_find (s := record s _ _ _) hl hf a).symm.trans h2
      rw [hready]; exact getLast?_record ..
    | none =>
      simp only [step, if_pos (isLive_iff.mpr hl), hf] at h1
      cases h1; simp [record] at hres
  · cases (step_isReady_of_not_live hl).symm.trans h1; simp [record] at hres

/-- … and it reports `ConnectionRefused` exactly when `is_ready` answered `None`, i.e. the resource is
no longer registered (failed connect, or removed) -/
theorem is_ready_none_iff (s s1 : St) (id : Nat) (hf : Fresh s) (h1 : step s (.isReady id) = some s1) :
    s1.results.getLast? = some ("isReady", id, "None") ↔ id ∉ s.live := by
  by_cases hl : id ∈ s.live
  · obtain ⟨r, hr, rfl⟩ := hf.liveReg id hl
    cases (step_isReady_of_find hl (findReg_unique hf hr)).symm.trans h1
    rw [getLast?_record]
    exact ⟨fun h => by split at h <;> simp at h, fun h => absurd hl h⟩
  · cases (step_isReady_of_not_live hl).symm.trans h1
    exact ⟨fun _ => hl, fun _ => getLast?_record ..⟩


/-- the hypotheses of `udp_lifecycle` about the adapter are what the Udp adapter (model M8, transcribed
from `adapters/udp.rs`) does: `pending` answers Ready, and `receive` never reports a disconnection,
whatever `recv` answers — datagrams, `WouldBlock`, a pending ICMP `ConnectionRefused` or any other error -/
theorem udp_adapter_contract (i : Nat) (k : Mio.Udp.Kind) (answers : List Mio.Udp.RecvAns) :
    Mio.Udp.remotePending = .ready ∧ (Mio.Udp.remoteReceive i k answers).2 = .waitNextEvent := by
  refine ⟨rfl, ?_⟩
  induction answers with
  | nil => rfl
  | cons a rest ih => cases a <;> simp [Mio.Udp.remoteReceive, ih]

/-- the loop hands over the datagrams at the head of the kernel's answers one by one, like `recvLoop` of M8 -/
theorem udp_remoteReceive_append (i : Nat) (k : Mio.Udp.Kind) (q : List Mio.Udp.Dgram) (rest : List Mio.Udp.RecvAns) :
    (Mio.Udp.remoteReceive i k (q.map .dgram ++ rest)).1 =
      Mio.Udp.recvLoop i k q ++ (Mio.Udp.remoteReceive i k rest).1 := by
  induction q with
  | nil => rfl
  | cons d q ih => exact congrArg (_ :: ·) ih

/-- and on a queue of datagrams followed by `WouldBlock` that loop is the `recvLoop` of M8 -/
theorem udp_remoteReceive_is_recvLoop (i : Nat) (k : Mio.Udp.Kind) (q : List Mio.Udp.Dgram) :
    (Mio.Udp.remoteReceive i k (q.map .dgram ++ [.wouldBlock])).1 = Mio.Udp.recvLoop i k q :=
  (udp_remoteReceive_append i k q _).trans (List.append_nil _)

/-! ## Through the node's dispatch layer (for_each, for_each_async, enqueue)

The node layer (model M4) numbers the processor's events in production order; `Mio.Node.netLog` is
the list of numbers handed to the callback so far. Composing `reachable_oinv` (the callback sees the
numbers `0 … k-1` in order, whatever the mode, the hand-over instant and the schedule) with
`lifecycle_wellformed`: what the callback has seen is a prefix of the processor's log, and the
lifecycle automaton is prefix-closed. -/

/-- the events delivered by the node, as a list of processor events -/
def delivered (log : List Ev) (n : Mio.Node.St) : List Ev :=
  (Mio.Node.netLog n).filterMap (fun i => log[i]?)

theorem delivered_is_prefix (log : List Ev) (mode : Mio.Node.Mode) (c : Nat) (n : Mio.Node.St)
    (hn : Mio.Node.Reachable mode c n) : delivered log n = log.take (Mio.Node.netLog n).length :=
  Mio.Node.delivered_prefix log mode c n hn

/-- per-endpoint lifecycle as observed by the user's callback behind any of the three listener modes -/
theorem lifecycle_wellformed_through_node (s : St) (h : Reachable s) (mode : Mio.Node.Mode) (c : Nat)
    (n : Mio.Node.St) (hn : Mio.Node.Reachable mode c n) :
    ∀ r ∈ s.regs, phaseOf r (delivered s.log n) ≠ .bad := by
  intro r hr hbad
  rw [delivered_is_prefix s.log mode c n hn] at hbad
  apply lifecycle_wellformed s h r hr
  rw [← List.take_append_drop (Mio.Node.netLog n).length s.log, phaseOf_append, hbad, foldl_bad]

/-! Non-vacuity: listen, connect, the peer sends two chunks and closes — the projection on the
connecting endpoint is `Connected(true) Message Message Disconnected`; an inbound connection whose
handshake fails leaves no trace. -/
def exRun : List Act :=
  [.listen, .connect 7, .pollRemote 0 false, .pending .ready, .beginReceive 0 false,
   .pollRemote 0 true, .checkReady, .beginReceive 2 true, .deliver, .deliver, .endReceive, .finish,
   .pollLocal 0 [9] [], .acceptOne, .acceptOne, .pollRemote 1 false, .pending .disconnected, .beginReceive 0 false]
example : ∃ s, run {} exRun = some s ∧
    proj 0 s.log = [.connected 0 true, .message 0, .message 0, .disconnected 0] ∧ proj 1 s.log = [] ∧
    s.live = [] := by decide

end Mio.C03
