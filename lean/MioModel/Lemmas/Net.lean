import MioModel.Net
import MioModel.Lemmas.Basic
/-! Invariants of the driver model M5.

`step` is inverted once, into the transition table `Step`; every fact about all steps is proved by case
analysis on the table, naming the transitions that matter to it.  A processor step on connection `id`
leaves everything that belongs to other connections alone (`Frame`, `step_frame`); `Inv` is preserved
because of that and of what the step does to the one register in the processor's hands. -/
namespace Mio.C17
open Mio.Net

/-- is `a` a step of `process(id, _)` on a remote resource?  (Named by the statement of `C17.process_frame`.) -/
def isProcAct : Act → Bool
  | .pending _ | .checkReady | .beginReceive _ _ | .deliver | .endReceive | .finish => true
  | _ => false

end Mio.C17

namespace Mio.Net

attribute [local simp] emit record

theorem not_mem_filter_ne (l : List Nat) (id : Nat) : id ∉ l.filter (· ≠ id) :=
  fun h => of_decide_eq_true (List.mem_filter.mp h).2 rfl

theorem filter_ne_of_not_mem {l : List Nat} {id : Nat} (h : id ∉ l) : l.filter (· ≠ id) = l :=
  List.filter_eq_self.mpr fun _ ha => decide_eq_true fun hab => h (hab ▸ ha)

theorem isLive_iff {s : St} {id : Nat} : isLive s id = true ↔ id ∈ s.live := List.contains_iff_mem

theorem deregister_of_mem {s : St} {id : Nat} (h : id ∈ s.live) (w : Who) :
    deregister s id w = (true, { s with live := s.live.filter (· ≠ id), dereg := s.dereg ++ [(id, w)] }) :=
  if_pos (isLive_iff.mpr h)

theorem deregister_of_not_mem {s : St} {id : Nat} (h : id ∉ s.live) (w : Who) : deregister s id w = (false, s) :=
  if_neg (mt isLive_iff.mp h)

theorem snd_deregister (s : St) (id : Nat) (w : Who) :
    (deregister s id w).2 =
      { s with live := s.live.filter (· ≠ id),
               dereg := if id ∈ s.live then s.dereg ++ [(id, w)] else s.dereg } := by
  by_cases h : id ∈ s.live
  · rw [deregister_of_mem h, if_pos h]
  · rw [deregister_of_not_mem h, filter_ne_of_not_mem h, if_neg h]

/-- the event that reports a resolved handshake -/
def estEv (id : Nat) : Option Nat → Ev
  | some l => .accepted id l
  | none => .connected id true

@[simp] theorem estEv_rid (id : Nat) (l : Option Nat) : (estEv id l).rid = some id := by cases l <;> rfl

/-- The transition table of `step`: one constructor per way a step is enabled, with its guard and the
state it leads to.  For the user calls that only answer (`send`, `sendLocal`, `isReady`) the text of
the answer is left open, and for `send` the list of adapter sends as well; the theorems about a single call
evaluate `step` on it. -/
inductive Step (s : St) : Act → St → Prop
  | connect (peer) : Step s (.connect peer)
      (record { s with regs := s.regs ++ [⟨s.nextRemote, none, false, peer⟩], live := s.live ++ [s.nextRemote],
                       nextRemote := s.nextRemote + 1 } "connect" s.nextRemote "ok")
  | listen : Step s .listen
      (record { s with locals := s.locals ++ [s.nextLocal], nextLocal := s.nextLocal + 1 } "listen" s.nextLocal "ok")
  | send (id ad sends res) : Step s (.send id ad) (record { s with adapterSends := sends } "send" id res)
  | sendLocal (lid ad res) : Step s (.sendLocal lid ad) (record s "sendLocal" lid res)
  | isReady (id res) : Step s (.isReady id) (record s "isReady" id res)
  | removeTrue (id) (hl : id ∈ s.live) : Step s (.remove id)
      (record { s with live := s.live.filter (· ≠ id), dereg := s.dereg ++ [(id, .user)],
                       removeTrue := s.removeTrue ++ [id] } "remove" id "true")
  | removeFalse (id) (hl : id ∉ s.live) : Step s (.remove id) (record s "remove" id "false")
  | removeLocalTrue (lid) (hl : lid ∈ s.locals) : Step s (.removeLocal lid)
      (record { s with locals := s.locals.filter (· ≠ lid) } "removeLocal" lid "true")
  | removeLocalFalse (lid) (hl : lid ∉ s.locals) : Step s (.removeLocal lid) (record s "removeLocal" lid "false")
  | pollRemote (id read) (hp : s.proc = .idle) (hl : id ∈ s.live) :
      Step s (.pollRemote id read) { s with proc := .got id read }
  | pollRemoteStale (id read) (hp : s.proc = .idle) (hl : id ∉ s.live) : Step s (.pollRemote id read) s
  | pendingReady (id read r) (hp : s.proc = .got id read) (hf : findReg s id = some r) (hr : r.ready = false) :
      Step s (.pending .ready)
        (emit { s with regs := setReady s.regs id, proc := .readyChecked id read } (estEv id r.listener))
  | pendingIncomplete (id read r) (hp : s.proc = .got id read) (hf : findReg s id = some r) (hr : r.ready = false) :
      Step s (.pending .incomplete) { s with proc := .readyChecked id read }
  | pendingRefused (id read r) (hp : s.proc = .got id read) (hf : findReg s id = some r) (hr : r.ready = false)
      (hl : r.listener = none) : Step s (.pending .disconnected)
      (emit { s with live := s.live.filter (· ≠ id), proc := .readyChecked id read,
                     dereg := if id ∈ s.live then s.dereg ++ [(id, .procPending)] else s.dereg }
        (.connected id false))
  | pendingDropped (id read r l) (hp : s.proc = .got id read) (hf : findReg s id = some r) (hr : r.ready = false)
      (hl : r.listener = some l) : Step s (.pending .disconnected)
      { s with live := s.live.filter (· ≠ id), proc := .readyChecked id read,
               dereg := if id ∈ s.live then s.dereg ++ [(id, .procPending)] else s.dereg }
  | checkReady (id read r) (hp : s.proc = .got id read) (hf : findReg s id = some r) (hr : r.ready = true) :
      Step s .checkReady { s with proc := .readyChecked id read }
  | beginRead (id n disc r) (hp : s.proc = .readyChecked id true) (hf : findReg s id = some r) (hr : r.ready = true) :
      Step s (.beginReceive n disc) { s with proc := .receiving id n disc }
  -- a write event only looks at `ready`; the one read the driver makes after a handshake that a write event
  -- completed (F12) is, in the model, a further `pollRemote id true` (stale, unlike the code's read, if the
  -- `Connected` callback removed the resource; no theorem speaks of that read)
  | beginWrite (id n disc r) (hp : s.proc = .readyChecked id false) (hf : findReg s id = some r)
      (hr : r.ready = true) : Step s (.beginReceive n disc) { s with proc := .idle }
  | beginNotReady (id read r) (hp : s.proc = .readyChecked id read) (hf : findReg s id = some r)
      (hr : r.ready = false) : Step s (.beginReceive 0 false) { s with proc := .idle }
  | deliver (id left disc) (hp : s.proc = .receiving id (left + 1) disc) :
      Step s .deliver (emit { s with proc := .receiving id left disc } (.message id))
  | endReceive (id disc) (hp : s.proc = .receiving id 0 disc) :
      Step s .endReceive { s with proc := .afterReceive id disc }
  | finishDisc (id) (hp : s.proc = .afterReceive id true) (hl : id ∈ s.live) : Step s .finish
      (emit { s with live := s.live.filter (· ≠ id), proc := .idle, dereg := s.dereg ++ [(id, .procRead)] }
        (.disconnected id))
  | finishIdle (id disc) (hp : s.proc = .afterReceive id disc) (hl : disc = true → id ∉ s.live) :
      Step s .finish { s with proc := .idle }
  | pollLocal (lid remotes datas) (hp : s.proc = .idle) (hl : lid ∈ s.locals) :
      Step s (.pollLocal lid remotes datas) { s with proc := .accepting lid remotes datas }
  | pollLocalStale (lid remotes datas) (hp : s.proc = .idle) (hl : lid ∉ s.locals) :
      Step s (.pollLocal lid remotes datas) s
  | acceptConn (lid peer rest datas) (hp : s.proc = .accepting lid (peer :: rest) datas) : Step s .acceptOne
      { s with regs := s.regs ++ [⟨s.nextRemote, some lid, false, peer⟩], live := s.live ++ [s.nextRemote],
               nextRemote := s.nextRemote + 1, proc := .accepting lid rest datas }
  | acceptData (lid peer rest) (hp : s.proc = .accepting lid [] (peer :: rest)) :
      Step s .acceptOne (emit { s with proc := .accepting lid [] rest } (.data lid peer))
  | acceptDone (lid) (hp : s.proc = .accepting lid [] []) : Step s .acceptOne { s with proc := .idle }

theorem Step.of_step {s s' : St} {a : Act} (hs : step s a = some s') : Step s a s' := by
  cases a with
  | connect peer => cases hs; exact .connect _
  | listen => cases hs; exact .listen
  | send id ad =>
    simp only [step] at hs
    split at hs
    · split at hs
      · split at hs <;> cases hs <;> exact .send ..
      · cases hs; exact .send ..
    · cases hs; exact .send ..
  | sendLocal lid ad =>
    simp only [step] at hs
    split at hs <;> cases hs <;> exact .sendLocal ..
  | remove id =>
    simp only [step] at hs
    by_cases hl : id ∈ s.live
    · rw [deregister_of_mem hl] at hs; cases hs; exact .removeTrue id hl
    · rw [deregister_of_not_mem hl] at hs; cases hs; exact .removeFalse id hl
  | removeLocal lid =>
    simp only [step] at hs
    split at hs <;> cases hs
    · exact .removeLocalTrue _ (List.contains_iff_mem.mp ‹_›)
    · exact .removeLocalFalse _ (mt List.contains_iff_mem.mpr ‹_›)
  | isReady id =>
    simp only [step] at hs
    split at hs
    · split at hs <;> cases hs <;> exact .isReady ..
    · cases hs; exact .isReady ..
  | pollRemote id read =>
    simp only [step] at hs
    split at hs
    · split at hs <;> cases hs
      · exact .pollRemote _ _ ‹_› (isLive_iff.mp ‹_›)
      · exact .pollRemoteStale _ _ ‹_› (mt isLive_iff.mpr ‹_›)
    · cases hs
  | pending ans =>
    simp only [step] at hs
    split at hs
    · split at hs
      · split at hs
        · cases hs
        · have hr := Bool.eq_false_iff.mpr ‹_›
          split at hs
          · cases hs; exact .pendingReady _ _ _ ‹_› ‹_› hr
          · cases hs; exact .pendingIncomplete _ _ _ ‹_› ‹_› hr
          · simp only [snd_deregister] at hs
            split at hs <;> cases hs
            · exact .pendingRefused _ _ _ ‹_› ‹_› hr ‹_›
            · exact .pendingDropped _ _ _ _ ‹_› ‹_› hr ‹_›
      · cases hs
    · cases hs
  | checkReady =>
    simp only [step] at hs
    split at hs
    · split at hs
      · split at hs <;> cases hs
        exact .checkReady _ _ _ ‹_› ‹_› ‹_›
      · cases hs
    · cases hs
  | beginReceive n disc =>
    simp only [step] at hs
    split at hs
    · split at hs
      · split at hs
        · split at hs <;> cases hs <;> rename_i hread
          · subst hread; exact .beginRead _ _ _ _ ‹_› ‹_› ‹_›
          · cases Bool.eq_false_iff.mpr hread; exact .beginWrite _ _ _ _ ‹_› ‹_› ‹_›
        · split at hs <;> cases hs
          rename_i h0
          obtain ⟨rfl, rfl⟩ := h0
          exact .beginNotReady _ _ _ ‹_› ‹_› (Bool.eq_false_iff.mpr ‹_›)
      · cases hs
    · cases hs
  | deliver =>
    simp only [step] at hs
    split at hs <;> cases hs
    exact .deliver _ _ _ ‹_›
  | endReceive =>
    simp only [step] at hs
    split at hs <;> cases hs
    exact .endReceive _ _ ‹_›
  | finish =>
    simp only [step] at hs
    split at hs
    · rename_i id disc hp
      split at hs
      · subst disc
        by_cases hl : id ∈ s.live
        · rw [deregister_of_mem hl] at hs; cases hs; exact .finishDisc id hp hl
        · rw [deregister_of_not_mem hl] at hs; cases hs; exact .finishIdle id true hp fun _ => hl
      · cases hs; exact .finishIdle id disc hp fun h => absurd h ‹_›
    · cases hs
  | pollLocal lid remotes datas =>
    simp only [step] at hs
    split at hs
    · split at hs <;> cases hs
      · exact .pollLocal _ _ _ ‹_› (List.contains_iff_mem.mp ‹_›)
      · exact .pollLocalStale _ _ _ ‹_› (mt List.contains_iff_mem.mpr ‹_›)
    · cases hs
  | acceptOne =>
    simp only [step] at hs
    split at hs <;> cases hs
    · exact .acceptConn _ _ _ _ ‹_›
    · exact .acceptData _ _ _ ‹_›
    · exact .acceptDone _ ‹_›

theorem run_preserves_on {A : Act → Prop} {P : St → Prop}
    (hstep : ∀ s s' a, A a → P s → step s a = some s' → P s') :
    ∀ (acts : List Act) (s s' : St), (∀ a ∈ acts, A a) → P s → run s acts = some s' → P s' :=
  run_induction_on (fun _ => rfl) (fun s a _ => by simp only [run]; cases step s a <;> rfl) hstep

theorem run_preserves {P : St → Prop} (hstep : ∀ s s' a, P s → step s a = some s' → P s') :
    ∀ (acts : List Act) (s s' : St), P s → run s acts = some s' → P s' :=
  run_induction (fun _ => rfl) (fun s a _ => by simp only [run]; cases step s a <;> rfl) hstep

theorem Reachable.induction {P : St → Prop} (h0 : P {}) (hstep : ∀ s s' a, P s → step s a = some s' → P s')
    {s : St} (h : Reachable s) : P s :=
  let ⟨acts, hr⟩ := h
  run_preserves hstep acts _ s h0 hr

/-! ### the answers of single user calls -/

theorem getLast?_record (s : St) (c : String) (id : Nat) (res : String) :
    (record s c id res).results.getLast? = some (c, id, res) := List.getLast?_concat

theorem step_send_of_not_live {s : St} {id : Nat} (h : id ∉ s.live) (a : Status) :
    step s (.send id a) = some (record s "send" id "ResourceNotFound") := by
  simp only [step, if_neg (mt isLive_iff.mp h)]; rfl

theorem step_send_of_find {s : St} {id : Nat} {r : Reg} (hl : id ∈ s.live) (hf : findReg s id = some r)
    (a : Status) :
    step s (.send id a) = some (if r.ready then
      record { s with adapterSends := s.adapterSends ++ [id] } "send" id (showStatus a)
      else record s "send" id "ResourceNotAvailable") := by
  simp only [step, if_pos (isLive_iff.mpr hl), hf]; split <;> rfl

theorem step_isReady_of_not_live {s : St} {id : Nat} (h : id ∉ s.live) :
    step s (.isReady id) = some (record s "isReady" id "None") := by
  simp only [step, if_neg (mt isLive_iff.mp h)]

theorem step_isReady_of_find {s : St} {id : Nat} {r : Reg} (hl : id ∈ s.live) (hf : findReg s id = some r) :
    step s (.isReady id) = some (record s "isReady" id (if r.ready then "Some(true)" else "Some(false)")) := by
  simp only [step, if_pos (isLive_iff.mpr hl), hf]

/-! ### freshness: ids are never reused -/

/-- the consequences of `Ids` that the property files use -/
structure Fresh (s : St) : Prop where
  regsLt : ∀ r ∈ s.regs, r.id < s.nextRemote
  regsNodup : (s.regs.map (·.id)).Nodup
  liveReg : ∀ id ∈ s.live, ∃ r ∈ s.regs, r.id = id
  liveNodup : s.live.Nodup
  deregNot : ∀ x ∈ s.dereg, x.1 ∉ s.live ∧ x.1 < s.nextRemote
  deregNodup : (s.dereg.map (·.1)).Nodup
  localsLt : ∀ l ∈ s.locals, l < s.nextLocal

theorem setReady_ids (regs : List Reg) (id : Nat) : (setReady regs id).map (·.id) = regs.map (·.id) := by
  unfold setReady
  rw [List.map_map]
  apply List.map_congr_left
  intro r _
  simp only [Function.comp]
  split <;> rfl

/-- What the steps keep, and `Fresh` follows from: remote ids are handed out in order, one per register. -/
structure Ids (s : St) : Prop where
  ids : s.regs.map (·.id) = List.range s.nextRemote
  liveLt : ∀ id ∈ s.live, id < s.nextRemote
  liveNodup : s.live.Nodup
  deregNot : ∀ x ∈ s.dereg, x.1 ∉ s.live ∧ x.1 < s.nextRemote
  deregNodup : (s.dereg.map (·.1)).Nodup
  localsLt : ∀ l ∈ s.locals, l < s.nextLocal

theorem Ids.fresh {s : St} (h : Ids s) : Fresh s where
  regsLt := fun _ hr => List.mem_range.mp (h.ids ▸ List.mem_map_of_mem (f := (·.id)) hr)
  regsNodup := h.ids ▸ List.nodup_range
  liveReg := fun id hid => List.mem_map.mp (h.ids ▸ List.mem_range.mpr (h.liveLt id hid))
  liveNodup := h.liveNodup
  deregNot := h.deregNot
  deregNodup := h.deregNodup
  localsLt := h.localsLt

theorem Ids.of_eq {s s' : St} (h : Ids s) (h1 : s'.regs.map (·.id) = s.regs.map (·.id))
    (h2 : s'.live = s.live) (h3 : s'.nextRemote = s.nextRemote) (h4 : s'.dereg = s.dereg)
    (h5 : s'.locals = s.locals) (h6 : s'.nextLocal = s.nextLocal) : Ids s' where
  ids := by rw [h1, h3]; exact h.ids
  liveLt := by rw [h2, h3]; exact h.liveLt
  liveNodup := by rw [h2]; exact h.liveNodup
  deregNot := by rw [h4, h2, h3]; exact h.deregNot
  deregNodup := by rw [h4]; exact h.deregNodup
  localsLt := by rw [h5, h6]; exact h.localsLt

theorem Ids.register {s s' : St} (h : Ids s) {r : Reg} (h1 : s'.regs = s.regs ++ [r]) (hr : r.id = s.nextRemote)
    (h2 : s'.live = s.live ++ [r.id]) (h3 : s'.nextRemote = s.nextRemote + 1) (h4 : s'.dereg = s.dereg)
    (h5 : s'.locals = s.locals) (h6 : s'.nextLocal = s.nextLocal) : Ids s' where
  ids := by rw [h1, h3, List.map_append, h.ids, List.range_succ, ← hr]; rfl
  liveLt := by
    rw [h2, h3, hr]
    exact forall_mem_snoc (fun id hid => Nat.lt_succ_of_lt (h.liveLt id hid)) (Nat.lt_succ_self _)
  liveNodup := by
    rw [h2, hr]
    exact nodup_snoc h.liveNodup fun hm => Nat.lt_irrefl _ (h.liveLt _ hm)
  deregNot := by
    rw [h4, h2, h3, hr]
    intro x hx
    obtain ⟨hx1, hx2⟩ := h.deregNot x hx
    exact ⟨List.not_mem_append hx1 fun hm => Nat.ne_of_lt hx2 (List.mem_singleton.mp hm), Nat.lt_succ_of_lt hx2⟩
  deregNodup := by rw [h4]; exact h.deregNodup
  localsLt := by rw [h5, h6]; exact h.localsLt

theorem Ids.deregister {s s' : St} (h : Ids s) {id : Nat} {w : Who} (h1 : s'.regs.map (·.id) = s.regs.map (·.id))
    (h2 : s'.live = s.live.filter (· ≠ id)) (h3 : s'.nextRemote = s.nextRemote)
    (h4 : s'.dereg = if id ∈ s.live then s.dereg ++ [(id, w)] else s.dereg)
    (h5 : s'.locals = s.locals) (h6 : s'.nextLocal = s.nextLocal) : Ids s' := by
  have hsub : ∀ x, x ∈ s.live.filter (· ≠ id) → x ∈ s.live := fun x hx => (List.mem_filter.mp hx).1
  by_cases hm : id ∈ s.live
  · refine Ids.of_eq (s := { s with live := s.live.filter (· ≠ id), dereg := s.dereg ++ [(id, w)] })
      { h with liveLt := ?_, liveNodup := ?_, deregNot := ?_, deregNodup := ?_ } h1 h2 h3 (h4.trans (if_pos hm)) h5 h6
    · exact fun x hx => h.liveLt x (hsub x hx)
    · exact h.liveNodup.filter _
    · exact forall_mem_snoc (fun x hx => ⟨fun hm => (h.deregNot x hx).1 (hsub _ hm), (h.deregNot x hx).2⟩)
        ⟨not_mem_filter_ne _ _, h.liveLt id hm⟩
    · rw [List.map_append]
      refine nodup_snoc h.deregNodup fun hd => ?_
      obtain ⟨x, hx, e⟩ := List.mem_map.mp hd
      exact (h.deregNot x hx).1 (e ▸ hm)
  · exact h.of_eq h1 (h2.trans (filter_ne_of_not_mem hm)) h3 (h4.trans (if_neg hm)) h5 h6

theorem step_ids {s s' : St} {a : Act} (h : Ids s) (hs : Step s a s') : Ids s' := by
  cases hs with
  | connect | acceptConn => exact h.register rfl rfl rfl rfl rfl rfl rfl
  | listen =>
    exact { h with
      localsLt := forall_mem_snoc (fun l hl => Nat.lt_succ_of_lt (h.localsLt l hl)) (Nat.lt_succ_self _) }
  | removeLocalTrue => exact { h with localsLt := fun l hl => h.localsLt l (List.mem_filter.mp hl).1 }
  | removeTrue _ hl | finishDisc _ _ hl => exact h.deregister rfl rfl rfl (if_pos hl).symm rfl rfl
  | pendingRefused | pendingDropped => exact h.deregister rfl rfl rfl rfl rfl rfl
  | pendingReady => exact h.of_eq (setReady_ids _ _) rfl rfl rfl rfl rfl
  | _ => exact h.of_eq rfl rfl rfl rfl rfl rfl

theorem Ids_init : Ids {} := ⟨rfl, nofun, .nil, nofun, .nil, nofun⟩

theorem reachable_ids (s : St) (h : Reachable s) : Ids s :=
  h.induction Ids_init fun _ _ _ h hs => step_ids h (Step.of_step hs)

theorem reachable_fresh (s : St) (h : Reachable s) : Fresh s := (reachable_ids s h).fresh

theorem find_unique {regs : List Reg} {r : Reg} (hnd : (regs.map (·.id)).Nodup) (hr : r ∈ regs) :
    regs.find? (fun x => decide (x.id = r.id)) = some r := by
  obtain ⟨as, bs, rfl⟩ := List.append_of_mem hr
  rw [List.map_append, List.nodup_append] at hnd
  refine List.find?_eq_some_iff_append.mpr ⟨decide_eq_true rfl, as, bs, rfl, fun a ha => ?_⟩
  simpa using hnd.2.2 a.id (List.mem_map_of_mem ha) r.id (List.mem_map_of_mem List.mem_cons_self)

theorem findReg_unique {s : St} (h : Fresh s) {r : Reg} (hr : r ∈ s.regs) : findReg s r.id = some r :=
  find_unique h.regsNodup hr

theorem findReg_some {s : St} {id : Nat} {r : Reg} (h : findReg s id = some r) : r ∈ s.regs ∧ r.id = id := by
  unfold findReg at h
  have := List.find?_some h
  exact ⟨List.mem_of_find?_eq_some h, by simpa using this⟩

theorem findReg_eq {s : St} (hf : Fresh s) {id : Nat} {r0 r : Reg} (hfind : findReg s id = some r0)
    (hr : r ∈ s.regs) (hid : r.id = id) : r = r0 :=
  Option.some.inj ((findReg_unique hf hr).symm.trans (hid ▸ hfind))

/-! ### the lifecycle automaton of one endpoint (C03) -/

inductive Phase where
  | init | est | ended | bad
deriving DecidableEq, Repr

/-- `ε | Connected(true) Message* Disconnected? | Connected(false)` for endpoints returned by
`connect()`, `ε | Accepted(listener) Message* Disconnected?` for accepted ones.  The id inside an event is
ignored: `phaseOf` feeds it the events of one endpoint (`proj r.id log`) only. -/
def phaseStep (listener : Option Nat) : Phase → Ev → Phase
  | .init, .connected _ true => if listener = none then .est else .bad
  | .init, .connected _ false => if listener = none then .ended else .bad
  | .init, .accepted _ l => if listener = some l then .est else .bad
  | .est, .message _ => .est
  | .est, .disconnected _ => .ended
  | _, _ => .bad

def proj (id : Nat) (log : List Ev) : List Ev := log.filter (fun e => e.rid = some id)

def phaseOf (r : Reg) (log : List Ev) : Phase := (proj r.id log).foldl (phaseStep r.listener) .init

theorem phaseOf_append (r : Reg) (log evs : List Ev) :
    phaseOf r (log ++ evs) = (proj r.id evs).foldl (phaseStep r.listener) (phaseOf r log) := by
  unfold phaseOf proj
  rw [List.filter_append, List.foldl_append]

theorem phaseOf_append_of_ne {r : Reg} {evs : List Ev} (log : List Ev) (h : ∀ e ∈ evs, e.rid ≠ some r.id) :
    phaseOf r (log ++ evs) = phaseOf r log := by
  rw [phaseOf_append, proj, List.filter_eq_nil_iff.mpr (by simpa using h)]; rfl

theorem phaseOf_emit {r : Reg} {e : Ev} (log : List Ev) (h : e.rid = some r.id) :
    phaseOf r (log ++ [e]) = phaseStep r.listener (phaseOf r log) e := by
  rw [phaseOf_append, proj, List.filter_cons_of_pos (by simpa using h)]; rfl

theorem phaseStep_estEv (id : Nat) (l : Option Nat) : phaseStep l .init (estEv id l) = .est := by
  cases l <;> simp [estEv, phaseStep]

theorem phaseStep_ne_init (l : Option Nat) (p : Phase) (e : Ev) : phaseStep l p e ≠ .init := by
  unfold phaseStep
  split <;> first | (split <;> nofun) | nofun

def readsFrom : Proc → Option Nat
  | .receiving id _ _ | .afterReceive id _ => some id
  | _ => none

theorem holds_of_reads {p : Proc} {id : Nat} (h : readsFrom p = some id) : procHolds p = some id := by
  cases p <;> first | exact h | cases h

/-- what the lifecycle phase of a register says about the rest of the state -/
structure Good (s : St) (r : Reg) : Prop where
  ne_bad : phaseOf r s.log ≠ .bad
  init : phaseOf r s.log = .init → r.ready = false
  est : phaseOf r s.log = .est → r.ready = true
  gone : phaseOf r s.log = .ended → r.id ∉ s.live
  /-- an endpoint that ended without ever being ready is a refused `connect()` -/
  failed : phaseOf r s.log = .ended → r.ready = false → r.listener = none
  /-- the only step that can still be in flight on an ended register is the rest of the `process` call
  whose `pending` ended it -/
  released : phaseOf r s.log = .ended → procHolds s.proc = some r.id →
    r.ready = false ∧ ∀ read, s.proc ≠ .got r.id read
  reading : readsFrom s.proc = some r.id → r.ready = true

def LogIds (s : St) : Prop := ∀ e ∈ s.log, ∀ id, e.rid = some id → id < s.nextRemote

structure Inv (s : St) : Prop where
  ids : Ids s
  logIds : LogIds s
  good : ∀ r ∈ s.regs, Good s r
  procId : ∀ id, procHolds s.proc = some id → id < s.nextRemote

theorem Inv.fresh {s : St} (h : Inv s) : Fresh s := h.ids.fresh

theorem Good.of_phase_eq {s s' : St} {r : Reg} (h : Good s r) (hlog : phaseOf r s'.log = phaseOf r s.log)
    (hlive : r.id ∈ s'.live → r.id ∈ s.live)
    (hrel : phaseOf r s.log = .ended → procHolds s'.proc = some r.id →
      r.ready = false ∧ ∀ read, s'.proc ≠ .got r.id read)
    (hrd : readsFrom s'.proc = some r.id → r.ready = true) : Good s' r :=
  ⟨hlog ▸ h.ne_bad, hlog ▸ h.init, hlog ▸ h.est, fun he hm => h.gone (hlog ▸ he) (hlive hm),
    hlog ▸ h.failed, fun he => hrel (hlog ▸ he), hrd⟩

theorem Good.frame {s s' : St} {r : Reg} (h : Good s r) (hlog : phaseOf r s'.log = phaseOf r s.log)
    (hlive : r.id ∈ s'.live → r.id ∈ s.live) (hproc : procHolds s'.proc ≠ some r.id) : Good s' r :=
  h.of_phase_eq hlog hlive (fun _ hh => absurd hh hproc) fun hh => absurd (holds_of_reads hh) hproc

theorem Good.of_eq {s s' : St} {r : Reg} (h : Good s r) (hlog : s'.log = s.log) (hproc : s'.proc = s.proc)
    (hlive : r.id ∈ s'.live → r.id ∈ s.live) : Good s' r :=
  h.of_phase_eq (by rw [hlog]) hlive (hproc ▸ h.released) (hproc ▸ h.reading)

theorem Good.of_est {s : St} {r : Reg} (hph : phaseOf r s.log = .est) (hr : r.ready = true) : Good s r :=
  ⟨by simp [hph], by simp [hph], fun _ => hr, by simp [hph], by simp [hph], by simp [hph], fun _ => hr⟩

theorem Good.of_ended {s : St} {r : Reg} (hph : phaseOf r s.log = .ended) (hgone : r.id ∉ s.live)
    (hfailed : r.ready = false → r.listener = none)
    (hrel : procHolds s.proc = some r.id → r.ready = false ∧ ∀ read, s.proc ≠ .got r.id read)
    (hrd : readsFrom s.proc ≠ some r.id) : Good s r :=
  ⟨by simp [hph], by simp [hph], by simp [hph], fun _ => hgone, fun _ => hfailed, fun _ => hrel,
    fun h => absurd h hrd⟩

theorem Good.new {s s' : St} (hl : LogIds s) {r : Reg} (hid : r.id = s.nextRemote) (hr : r.ready = false)
    (hlog : s'.log = s.log) (hp : readsFrom s'.proc ≠ some r.id) : Good s' r := by
  have hph : phaseOf r s'.log = .init := by
    rw [hlog, ← List.nil_append s.log, phaseOf_append_of_ne [] fun e he hh => ?_]; rfl
    exact Nat.lt_irrefl _ (hid ▸ hl e he _ hh)
  exact ⟨by simp [hph], fun _ => hr, by simp [hph], by simp [hph], by simp [hph], by simp [hph],
    fun h => absurd h hp⟩

theorem Good.init_of_got {s : St} {r : Reg} {read : Bool} (h : Good s r) (hp : s.proc = .got r.id read)
    (hnr : r.ready = false) : phaseOf r s.log = .init := by
  cases hph : phaseOf r s.log with
  | init => rfl
  | est => exact absurd (h.est hph) (by simp [hnr])
  | ended => exact absurd hp ((h.released hph (by rw [hp]; rfl)).2 read)
  | bad => exact absurd hph h.ne_bad

theorem Good.est_of_reading {s : St} {r : Reg} (h : Good s r) (hrd : readsFrom s.proc = some r.id) :
    r.ready = true ∧ phaseOf r s.log = .est := by
  have hready := h.reading hrd
  refine ⟨hready, ?_⟩
  cases hph : phaseOf r s.log with
  | init => exact absurd (h.init hph) (by simp [hready])
  | est => rfl
  | ended => exact absurd (h.released hph (holds_of_reads hrd)).1 (by simp [hready])
  | bad => exact absurd hph h.ne_bad

/-- an accepted register that was never marked ready has had no event: it is not established, and only a
refused `connect()` ends unready, so its phase is `init`, which the automaton leaves with the first event -/
theorem Good.silent {s : St} {r : Reg} (hg : Good s r) (hacc : r.listener ≠ none) (hnr : r.ready = false) :
    proj r.id s.log = [] := by
  have hinit : phaseOf r s.log = .init := by
    cases hp : phaseOf r s.log with
    | init => rfl
    | est => exact absurd (hg.est hp) (by simp [hnr])
    | ended => exact absurd (hg.failed hp hnr) hacc
    | bad => exact absurd hp hg.ne_bad
  rcases List.eq_nil_or_concat (proj r.id s.log) with hnil | ⟨evs, e, hcat⟩
  · exact hnil
  · rw [phaseOf, hcat, List.concat_eq_append, List.foldl_append] at hinit
    exact absurd hinit (phaseStep_ne_init _ _ _)

/-! ### non-interference of the processor -/

/-- `s'` differs from `s` only in what belongs to connection `id` -/
structure Frame (id : Nat) (s s' : St) : Prop where
  live : ∀ x, x ≠ id → (x ∈ s'.live ↔ x ∈ s.live)
  log : ∃ evs, s'.log = s.log ++ evs ∧ ∀ e ∈ evs, e.rid = some id
  regs : ∀ r : Reg, r.id ≠ id → (r ∈ s'.regs ↔ r ∈ s.regs)
  proc : ∀ x, procHolds s'.proc = some x → x = id
  next : s'.nextRemote = s.nextRemote

theorem mem_setReady_of_ne {regs : List Reg} {id : Nat} {r : Reg} (hne : r.id ≠ id) :
    r ∈ setReady regs id ↔ r ∈ regs := by
  refine ⟨fun h => ?_, fun h => List.mem_map.mpr ⟨r, h, if_neg hne⟩⟩
  obtain ⟨r0, h0, rfl⟩ := List.mem_map.mp h
  split at hne
  · exact absurd ‹_› hne
  · rw [if_neg hne]; exact h0

theorem step_frame {s s' : St} {a : Act} {id : Nat} (hp : procHolds s.proc = some id)
    (ha : C17.isProcAct a = true) (hs : step s a = some s') : Frame id s s' := by
  have holds : ∀ {id0 : Nat} {p : Proc}, s.proc = p → procHolds p = some id0 → id0 = id :=
    fun h h0 => Option.some.inj (h0.symm.trans (h ▸ hp))
  have same : ∀ x, some id = some x → x = id := fun x hx => (Option.some.inj hx).symm
  have quiet : ∃ evs, s.log = s.log ++ evs ∧ ∀ e ∈ evs, e.rid = some id :=
    ⟨[], (List.append_nil _).symm, nofun⟩
  have dereg : ∀ x, x ≠ id → (x ∈ s.live.filter (· ≠ id) ↔ x ∈ s.live) := fun x hx => by simp [hx]
  cases Step.of_step hs with
  | pendingReady id0 _ _ hp0 =>
    cases holds hp0 rfl
    exact ⟨fun _ _ => Iff.rfl, ⟨[_], rfl, by simp⟩, fun _ => mem_setReady_of_ne, same, rfl⟩
  | pendingRefused id0 _ _ hp0 =>
    cases holds hp0 rfl
    exact ⟨dereg, ⟨[_], rfl, by simp [Ev.rid]⟩, fun _ _ => Iff.rfl, same, rfl⟩
  | pendingDropped id0 _ _ _ hp0 => cases holds hp0 rfl; exact ⟨dereg, quiet, fun _ _ => Iff.rfl, same, rfl⟩
  | deliver id0 _ _ hp0 =>
    cases holds hp0 rfl
    exact ⟨fun _ _ => Iff.rfl, ⟨[_], rfl, by simp [Ev.rid]⟩, fun _ _ => Iff.rfl, same, rfl⟩
  | finishDisc id0 hp0 =>
    cases holds hp0 rfl
    exact ⟨dereg, ⟨[_], rfl, by simp [Ev.rid]⟩, fun _ _ => Iff.rfl, nofun, rfl⟩
  | pendingIncomplete id0 _ _ hp0 | checkReady id0 _ _ hp0 | beginRead id0 _ _ _ hp0 | endReceive id0 _ hp0 =>
    cases holds hp0 rfl
    exact ⟨fun _ _ => Iff.rfl, quiet, fun _ _ => Iff.rfl, same, rfl⟩
  | beginWrite | beginNotReady | finishIdle => exact ⟨fun _ _ => Iff.rfl, quiet, fun _ _ => Iff.rfl, nofun, rfl⟩
  | _ => cases ha

theorem Frame.good {id : Nat} {s s' : St} (f : Frame id s s') {r : Reg} (hne : r.id ≠ id) (h : Good s r) :
    Good s' r := by
  obtain ⟨evs, hlog, hev⟩ := f.log
  refine h.frame ?_ (f.live _ hne).mp fun hh => hne (f.proc _ hh)
  rw [hlog]
  exact phaseOf_append_of_ne _ fun e he hh => hne (Option.some.inj ((hev e he).symm.trans hh)).symm

theorem step_inv (s s' : St) (a : Act) (h : Inv s) (hs : step s a = some s') : Inv s' := by
  have hf' : Ids s' := step_ids h.ids (Step.of_step hs)
  -- a processor step on `id`: the frame settles all but the registers with that id
  have proc : ∀ {id p}, s.proc = p → procHolds p = some id → C17.isProcAct a = true →
      (∀ r ∈ s'.regs, r.id = id → Good s' r) → Inv s' := by
    intro id p hp hh ha own
    have hp : procHolds s.proc = some id := hp ▸ hh
    have fr := step_frame hp ha hs
    obtain ⟨evs, hlog, hev⟩ := fr.log
    have hidlt := fr.next ▸ h.procId id hp
    refine ⟨hf', fun e he x hx => ?_, fun r hr => ?_, fun x hx => fr.proc x hx ▸ hidlt⟩
    · rcases List.mem_append.mp (hlog ▸ he) with he | he
      · exact fr.next ▸ h.logIds e he x hx
      · exact Option.some.inj ((hev e he).symm.trans hx) ▸ hidlt
    · by_cases hid : r.id = id
      · exact own r hr hid
      · exact fr.good hid (h.good r ((fr.regs r hid).mp hr))
  have older : ∀ r ∈ s.regs, r.id ∈ s.live ++ [s.nextRemote] → r.id ∈ s.live := fun r hr hm =>
    (List.mem_append.mp hm).resolve_right fun hh => Nat.ne_of_lt (h.fresh.regsLt r hr) (List.mem_singleton.mp hh)
  cases Step.of_step hs with
  | connect peer =>
    refine ⟨hf', fun e he id hid => Nat.lt_succ_of_lt (h.logIds e he id hid), fun r hr => ?_,
      fun id hid => Nat.lt_succ_of_lt (h.procId id hid)⟩
    rcases List.mem_append.mp hr with hr | hr
    · exact (h.good r hr).of_eq rfl rfl (older r hr)
    · cases List.mem_singleton.mp hr
      exact .new h.logIds rfl rfl rfl fun hh => Nat.lt_irrefl _ (h.procId _ (holds_of_reads hh))
  | acceptConn lid peer rest datas hp =>
    refine ⟨hf', fun e he id hid => Nat.lt_succ_of_lt (h.logIds e he id hid), fun r hr => ?_, nofun⟩
    rcases List.mem_append.mp hr with hr | hr
    · exact (h.good r hr).frame rfl (older r hr) nofun
    · cases List.mem_singleton.mp hr
      exact .new h.logIds rfl rfl rfl nofun
  | removeTrue id hl =>
    exact ⟨hf', h.logIds, fun r hr => (h.good r hr).of_eq rfl rfl fun hm => (List.mem_filter.mp hm).1, h.procId⟩
  | pollRemote id read hp hl =>
    obtain ⟨r0, hr0, rfl⟩ := h.fresh.liveReg id hl
    refine ⟨hf', h.logIds, fun r hr => ?_, fun x hx => Option.some.inj hx ▸ h.fresh.regsLt r0 hr0⟩
    refine (h.good r hr).of_phase_eq rfl id (fun he hh => ?_) nofun
    exact absurd (Option.some.inj hh ▸ hl) ((h.good r hr).gone he)
  | acceptData lid peer rest hp =>
    exact ⟨hf', forall_mem_snoc h.logIds nofun,
      fun r hr => (h.good r hr).frame (phaseOf_append_of_ne _ (by simp [Ev.rid])) id nofun, nofun⟩
  | pollLocal | acceptDone => exact ⟨hf', h.logIds, fun r hr => (h.good r hr).frame rfl id nofun, nofun⟩
  | pendingReady id read r0 hp hfind hnr =>
    refine proc hp rfl rfl fun r' hr' hid => ?_
    obtain ⟨r, hr, rfl⟩ := List.mem_map.mp hr'
    cases findReg_eq h.fresh hfind hr (by split at hid <;> exact hid)
    cases (findReg_some hfind).2
    rw [if_pos rfl]
    refine .of_est ((phaseOf_emit (r := r0) _ (estEv_rid _ _)).trans ?_) rfl
    rw [(h.good r0 hr).init_of_got hp hnr]; exact phaseStep_estEv _ _
  | pendingIncomplete _ read r0 hp hfind hnr =>
    refine proc hp rfl rfl fun r hr hid => ?_
    cases findReg_eq h.fresh hfind hr hid
    exact (h.good r0 hr).of_phase_eq rfl id (fun _ _ => ⟨hnr, nofun⟩) nofun
  | pendingRefused id read r0 hp hfind hnr hl =>
    refine proc hp rfl rfl fun r hr hid => ?_
    cases findReg_eq h.fresh hfind hr hid
    subst hid
    have hph : phaseOf r0 (s.log ++ [.connected r0.id false]) = .ended := by
      rw [phaseOf_emit _ rfl, (h.good r0 hr).init_of_got hp hnr]; simp [phaseStep, hl]
    exact .of_ended hph (not_mem_filter_ne _ _) (fun _ => hl) (fun _ => ⟨hnr, nofun⟩) nofun
  | pendingDropped id read r0 l hp hfind hnr hl =>
    refine proc hp rfl rfl fun r hr hid => ?_
    cases findReg_eq h.fresh hfind hr hid
    exact (h.good r0 hr).of_phase_eq rfl (fun hm => (List.mem_filter.mp hm).1) (fun _ _ => ⟨hnr, nofun⟩) nofun
  | checkReady id read r0 hp hfind hrd =>
    refine proc hp rfl rfl fun r hr hid => ?_
    subst hid
    exact (h.good r hr).of_phase_eq rfl id
      (fun he _ => absurd hp (((h.good r hr).released he (hp ▸ rfl)).2 read)) nofun
  | beginRead id n disc r0 hp hfind hrd =>
    refine proc hp rfl rfl fun r hr hid => ?_
    cases findReg_eq h.fresh hfind hr hid
    subst hid
    refine (h.good r0 hr).of_phase_eq rfl id (fun he _ => ?_) fun _ => hrd
    exact absurd ((h.good r0 hr).released he (hp ▸ rfl)).1 (by simp [hrd])
  | deliver id left disc hp =>
    refine proc hp rfl rfl fun r hr hid => ?_
    subst hid
    obtain ⟨hrd, hph⟩ := (h.good r hr).est_of_reading (hp ▸ rfl)
    exact .of_est ((phaseOf_emit _ rfl).trans (by rw [hph]; rfl)) hrd
  | endReceive id disc hp =>
    refine proc hp rfl rfl fun r hr hid => ?_
    subst hid
    obtain ⟨hrd, hph⟩ := (h.good r hr).est_of_reading (hp ▸ rfl)
    exact (h.good r hr).of_phase_eq rfl id (fun he => by rw [hph] at he; cases he) fun _ => hrd
  | finishDisc id hp hl =>
    refine proc hp rfl rfl fun r hr hid => ?_
    subst hid
    obtain ⟨hrd, hph⟩ := (h.good r hr).est_of_reading (hp ▸ rfl)
    have hph' : phaseOf r (s.log ++ [.disconnected r.id]) = .ended := by rw [phaseOf_emit _ rfl, hph]; rfl
    exact .of_ended hph' (not_mem_filter_ne _ _) (fun hh => absurd hrd (by simp [hh])) nofun nofun
  | beginWrite _ _ _ _ hp | beginNotReady _ _ _ hp | finishIdle _ _ hp =>
    exact proc hp rfl rfl fun r hr _ => (h.good r hr).frame rfl id nofun
  | _ => exact ⟨hf', h.logIds, fun r hr => (h.good r hr).of_eq rfl rfl id, h.procId⟩

theorem reachable_inv (s : St) (h : Reachable s) : Inv s :=
  h.induction ⟨Ids_init, nofun, nofun, nofun⟩ step_inv

theorem step_not_live {s s' : St} {a : Act} {id : Nat} (h1 : id < s.nextRemote) (h2 : id ∉ s.live)
    (hs : step s a = some s') : id ∉ s'.live ∧ id < s'.nextRemote := by
  have reg : id ∉ s.live ++ [s.nextRemote] :=
    List.not_mem_append h2 fun hm => Nat.ne_of_lt h1 (List.mem_singleton.mp hm)
  have dereg : ∀ x, id ∉ s.live.filter (· ≠ x) := fun x hm => h2 (List.mem_filter.mp hm).1
  cases Step.of_step hs with
  | connect | acceptConn => exact ⟨reg, Nat.lt_succ_of_lt h1⟩
  | removeTrue x | pendingRefused x | pendingDropped x | finishDisc x => exact ⟨dereg x, h1⟩
  | _ => exact ⟨h2, h1⟩

theorem run_not_live (acts : List Act) (s s' : St) (id : Nat) (h1 : id < s.nextRemote) (h2 : id ∉ s.live)
    (hr : run s acts = some s') : id ∉ s'.live ∧ id < s'.nextRemote :=
  run_preserves (P := fun s => id ∉ s.live ∧ id < s.nextRemote) (fun _ _ _ h => step_not_live h.2 h.1) acts s s'
    ⟨h2, h1⟩ hr

/-- `Disconnected` events and successful `remove()` calls never outnumber the deregistrations -/
def EndsLe (s : St) : Prop :=
  ∀ id, s.log.count (.disconnected id) + s.removeTrue.count id ≤ (s.dereg.map (·.1)).count id

theorem step_endsLe (s s' : St) (a : Act) (h : EndsLe s) (hs : step s a = some s') : EndsLe s' := by
  intro i
  have hi := h i
  cases Step.of_step hs with
  | removeTrue x | finishDisc x =>
    simp only [record, emit, List.count_append, List.map_append, List.map_cons, List.map_nil, List.count_singleton,
      beq_iff_eq, Ev.disconnected.injEq]
    split <;> omega
  | pendingRefused x | pendingDropped x =>
    simp only [emit]
    split <;> simp [List.count_append] <;> omega
  | pendingReady x _ r => cases r.listener <;> simpa [estEv, List.count_append] using hi
  | deliver | acceptData => simpa [List.count_append] using hi
  | _ => exact hi

theorem reachable_endsLe (s : St) (h : Reachable s) : EndsLe s :=
  h.induction (fun _ => Nat.le_refl _) step_endsLe

end Mio.Net
