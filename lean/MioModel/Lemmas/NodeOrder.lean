import MioModel.Lemmas.Node
/-! Order of the network events handed to the callback (C15). -/
namespace Mio.Node

/-- the network event the network thread has fetched but not yet handed to the callback -/
def heldN : Pc → List Nat
  | .rWant e | .rLocked e | .rChecked e => [e]
  | .want (.net e) | .locked (.net e) | .checked (.net e) => [e]
  | _ => []

/-- events in the pipeline, in production order -/
def upcoming (s : St) : List Nat := heldN s.pcN ++ s.cache ++ s.pending

variable {x : Nat} {up : List Nat} {nl : Nat} {lg : List Nat} {r c r' c' : Bool}

/-- `lg`: the network events handed to the callback so far; `up`: those in the pipeline; `nl`: the number of
the next one to be produced.  Delivered, then skipped, then upcoming events are all the events produced, in
order; and events are skipped only once the node is stopped and the network thread is not past its test
(`chk`) for the one it holds. -/
def OCore (up : List Nat) (nl : Nat) (lg : List Nat) (running chk : Bool) : Prop :=
  ∃ skipped, lg ++ skipped ++ up = List.range nl ∧ (running = true ∨ chk = true → skipped = [])

theorem OCore.weaken (h : OCore up nl lg r c)
    (hr : r' = true → r = true) (hc : c' = true → r = true ∨ c = true) : OCore up nl lg r' c' :=
  let ⟨sk, h, hs⟩ := h
  ⟨sk, h, fun x => hs (x.elim (fun y => .inl (hr y)) hc)⟩

theorem OCore.skip (h : OCore (x :: up) nl lg r c) (hr : r = false) : OCore up nl lg r false :=
  let ⟨sk, h, _⟩ := h
  ⟨sk ++ [x], by simpa using h, by simp [hr]⟩

theorem OCore.log (h : OCore (x :: up) nl lg r true) : OCore up nl (lg ++ [x]) r false := by
  obtain ⟨sk, h, hs⟩ := h
  rw [hs (.inr rfl)] at h
  exact ⟨[], by simpa using h, fun _ => rfl⟩

theorem OCore.poll (k : Nat) (h : OCore [] nl lg r c) :
    OCore ((List.range k).map (· + nl)) (nl + k) lg r false := by
  obtain ⟨sk, h, hs⟩ := h
  refine ⟨sk, ?_, fun x => hs (x.imp_right (by simp))⟩
  rw [List.range_add, ← h, List.append_nil]
  simp only [Nat.add_comm nl]

theorem OCore.ranges (h : OCore up nl lg r c) :
    lg = List.range lg.length ∧ up = List.range' (nl - up.length) up.length ∧
    (r = true → lg.length + up.length = nl) := by
  obtain ⟨sk, h, hs⟩ := h
  obtain ⟨_, h2, h3⟩ := range_split h
  obtain ⟨h1, _, _⟩ := range_split (List.append_assoc .. ▸ h)
  refine ⟨h1, h2.trans ?_, fun hr => by simpa [hs (.inl hr)] using h3⟩
  congr 1; omega

def OInv (s : St) : Prop := OCore (upcoming s) s.nextLive (netLog s) s.running (isChecked s.pcN)

theorem netLog_snoc (log : List (Owner × Item)) (x : Owner × Item) :
    (log ++ [x]).filterMap netOf = log.filterMap netOf ++ (netOf x).toList := by
  cases h : netOf x <;> simp [List.filterMap_append, h]

theorem OInv_init (mode : Mode) (c : Nat) : OInv (init mode c) :=
  ⟨[], by simp [upcoming, init, heldN, netLog], fun _ => rfl⟩

theorem step_oinv (s s' : St) (a : Act) (h : OInv s) (hst : Struct s) (hs : step s a = some s') : OInv s' := by
  have hcore : OCore (heldN s.pcN ++ s.cache ++ s.pending) s.nextLive (s.log.filterMap netOf) s.running
      (isChecked s.pcN) := h
  unfold OInv upcoming netLog
  have same {r' c'} (hr : r' = true → s.running = true)
      (hc : c' = true → s.running = true ∨ isChecked s.pcN = true) :=
    OCore.weaken hcore hr hc
  cases Step.of_step hs with
  | startSync hpc hm | startAsync hpc hm => rw [hpc] at hcore; exact hcore
  | callerRelease hl => exact hcore
  | stopInNet hin | stopInSig hin | stopExt => exact same (by simp) .inr
  | sig hs =>
    cases hs with
    | enter e hpc =>
      -- the signal thread appends signal items only
      have hso := hst.sigOnlyS
      rw [hpc] at hso
      cases e with
      | net n => simp [sigOnly, isNet] at hso
      | sig n => simp only [netLog_snoc, netOf, Option.toList, List.append_nil]; exact hcore
    | _ => exact hcore
  | @net poll _ hs =>
    have hno := hst.netOnlyN
    have hcache (hpc : s.pcN = .fetch) : s.cache = [] := hst.loopCache (by simp [hpc, inLoop])
    cases hs with
    | replayEndSync hpc hc hm | replayEndAsync hpc hc hm | rAcquire e hpc hl | rLeaveSync e hpc hm
    | rLeaveAsync e hpc hm | loopTest hpc hr | loopExit hpc hr | timeout hpc hp => rw [hpc] at hcore; exact hcore
    | popSync e rest hpc hc hm hr => rw [hpc, hc] at hcore; exact OCore.weaken hcore (fun _ => hr) fun _ => .inl hr
    | popStopped e rest hpc hc hm hr => rw [hpc, hc] at hcore; exact OCore.skip hcore hr
    | popAsync e rest hpc hc hm => rw [hpc, hc] at hcore; exact OCore.weaken hcore id (by simp [isChecked])
    | rCheck e hpc hr => rw [hpc] at hcore; exact OCore.weaken hcore (fun _ => hr) fun _ => .inl hr
    | rSkip e hpc hr => rw [hpc] at hcore; exact OCore.skip hcore hr
    | rEnter e hpc => rw [hpc] at hcore; simp only [netLog_snoc]; exact OCore.log hcore
    | next e rest hpc hp =>
      rw [hpc, hp, hcache hpc] at hcore
      rw [hcache hpc]
      exact OCore.weaken hcore id (by simp [isChecked])
    | polled e rest hpc hp hz hb =>
      rw [hpc, hp, hcache hpc] at hcore
      rw [hcache hpc]
      have := OCore.poll poll hcore
      rw [hb] at this; exact this
    | acquire e hpc hl => rw [hpc] at hcore; cases e <;> exact hcore
    | check e hpc hr => rw [hpc] at hcore; cases e <;> exact OCore.weaken hcore (fun _ => hr) fun _ => .inl hr
    | enter e hpc =>
      rw [hpc] at hcore hno
      cases e with
      | sig n => simp [netOnly, isNet] at hno
      | net n => simp only [netLog_snoc]; exact OCore.log hcore
    | leaveLast e hpc hp | leaveMore e hpc hp =>
      rw [hpc] at hcore; cases e <;> exact OCore.weaken hcore id (by simp [isChecked])
    | skipLast e hpc hr hp | skipMore e hpc hr hp =>
      rw [hpc] at hcore hno
      cases e with
      | sig n => simp [netOnly, isNet] at hno
      | net n => exact OCore.skip hcore hr

theorem reachable_oinv (mode : Mode) (c : Nat) (s : St) (h : Reachable mode c s) : OInv s :=
  (h.induction (P := fun s => OInv s ∧ Struct s) ⟨OInv_init mode c, Struct_init mode c⟩
    fun s s' a ⟨h1, h2⟩ hs => ⟨step_oinv s s' a h1 h2 hs, step_struct s s' a h2 hs⟩).1

/-- what the callback has been handed of a list indexed by event number is a prefix of that list -/
theorem delivered_prefix {α} (l : List α) (mode : Mode) (c : Nat) (s : St) (h : Reachable mode c s) :
    (netLog s).filterMap (fun i => l[i]?) = l.take (netLog s).length := by
  have e := (reachable_oinv mode c s h).ranges.1
  generalize (netLog s).length = k at e
  rw [e, filterMap_range_getElem?]

end Mio.Node
