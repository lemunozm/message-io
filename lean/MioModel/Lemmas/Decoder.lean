import MioModel.Decoder
import MioModel.Lemmas.Basic
import MioModel.Lemmas.Varint
/-! Lemmas about the decoder model.

`parse` is what `Decoder::try_decode` makes of a whole buffer.  A stored buffer satisfies `DecInv` when
`parse` waits on it; on a well-formed stream it does, being a strict prefix of the frame in progress
(`StrictPre`, `DecInv_strict_prefix`).  On such a buffer `decode` is `parse` on buffer and data together
(`decode_eq_parse`), unless the slow path gives up on a size prefix of ten continuation bytes
(`decode_stuck`).  The chunking theorem (C02) and the no-panic theorem (C17) both follow. -/
namespace Mio
open Generated

theorem sizeEnd_cont (t : Bytes) : ∀ a : Bytes, (∀ y ∈ a, 128 ≤ y.toNat) →
    sizeEnd (a ++ t) = a.length + sizeEnd t
  | [], _ => (Nat.zero_add _).symm
  | y :: a, ha => by
    rw [List.cons_append, sizeEnd, sizeEnd_cont t a fun z hz => ha z (List.mem_cons_of_mem _ hz),
      if_neg (mt (and_80_eq_zero _ y.toNat_lt).1 (Nat.not_lt.2 (ha y List.mem_cons_self))),
      List.length_cons, Nat.add_comm 1, Nat.add_right_comm]

theorem frames_cons (m : Bytes) (ms : List Bytes) : frames (m :: ms) = frame m ++ frames ms :=
  List.flatten_cons

theorem frames_nil : frames [] = [] := rfl

theorem frame_length (m : Bytes) : (frame m).length = (encodeVar m.length).length + m.length :=
  List.length_append

/-- what the decoder holds between two calls on the stream `frames ms`: nothing, or a strict prefix
`p` of the frame in progress -/
def StrictPre (p : Bytes) (ms : List Bytes) : Prop :=
  p = [] ∨ ∃ m ms' q, ms = m :: ms' ∧ frame m = p ++ q ∧ q ≠ []

theorem decodeVar_prefix_complete {n : Nat} (hn : n < 2 ^ 64) {x s y : Bytes}
    (h : encodeVar n ++ x = s ++ y) (hL : (encodeVar n).length ≤ s.length) :
    decodeVar s = some (n, (encodeVar n).length) := by
  obtain ⟨t, rfl, _⟩ := split_of_le h hL
  exact decodeVar_encodeVar n hn t

theorem decodeVar_prefix_incomplete {n : Nat} {x s y : Bytes}
    (h : encodeVar n ++ x = s ++ y) (hL : s.length < (encodeVar n).length) : decodeVar s = none := by
  obtain ⟨t, ht, _⟩ := split_of_le h.symm (Nat.le_of_lt hL)
  refine decodeVar_strict_prefix ht fun h0 => ?_
  rw [ht, h0, List.append_nil] at hL
  exact Nat.lt_irrefl _ hL

theorem tryDecode_fuel : ∀ (f f' : Nat) (d : Bytes), d.length < f → d.length < f' →
    tryDecode f d = tryDecode f' d
  | 0, _, _, h, _ => absurd h (Nat.not_lt_zero _)
  | _, 0, _, _, h => absurd h (Nat.not_lt_zero _)
  | f + 1, f' + 1, d, h, h' => by
    simp only [tryDecode]
    split
    · next e u hd =>
      have hu := decodeVar_used_le hd
      have hlen : ((d.drop u).drop e).length < d.length := by simp only [List.length_drop]; omega
      rw [tryDecode_fuel f f' _ (by omega) (by omega)]
    · rfl

def parse (d : Bytes) : Bytes × List Bytes := tryDecode (d.length + 1) d

theorem tryDecode_eq_parse {f : Nat} {d : Bytes} (h : d.length < f) : tryDecode f d = parse d :=
  tryDecode_fuel _ _ d h (Nat.lt_succ_self _)

theorem parse_eq (d : Bytes) : parse d =
    match decodeVar d with
    | some (e, u) =>
      if e ≤ (d.drop u).length then
        ((parse ((d.drop u).drop e)).1, (d.drop u).take e :: (parse ((d.drop u).drop e)).2)
      else (d, [])
    | none => (d, []) := by
  rw [parse, tryDecode]
  cases hd : decodeVar d with
  | none => rfl
  | some eu =>
    obtain ⟨e, u⟩ := eu
    have hu := decodeVar_used_le hd
    dsimp only
    split
    · split
      · next hnil => rw [hnil]; rfl
      · rw [tryDecode_eq_parse (by simp only [List.length_drop]; omega)]
    · rfl

theorem parse_frame_append (m rest : Bytes) (hm : m.length < 2 ^ 64) :
    parse (frame m ++ rest) = ((parse rest).1, m :: (parse rest).2) := by
  rw [parse_eq, frame, List.append_assoc, decodeVar_encodeVar _ hm]
  simp only [List.drop_left, List.take_left, List.length_append, Nat.le_add_right, if_true]

/-- if the size prefix of the stored buffer decodes, the payload is still incomplete: `parse` waits -/
def DecInv (st : Bytes) : Prop := ∀ e u, decodeVar st = some (e, u) → st.length - u < e

theorem DecInv_of_none {st : Bytes} (h : decodeVar st = none) : DecInv st :=
  fun e u h' => by rw [h] at h'; cases h'

theorem DecInv_nil : DecInv [] := DecInv_of_none rfl

theorem parse_of_DecInv {st : Bytes} (h : DecInv st) : parse st = (st, []) := by
  rw [parse_eq]
  split
  · next e u hd => exact if_neg (by have := h e u hd; rw [List.length_drop]; omega)
  · rfl

theorem DecInv_parse (d : Bytes) : DecInv (parse d).1 := by
  rw [parse_eq]
  cases hd : decodeVar d with
  | none => exact DecInv_of_none hd
  | some eu =>
    obtain ⟨e, u⟩ := eu
    have hu := decodeVar_used_le hd
    dsimp only
    split
    · exact DecInv_parse _
    · next hlt =>
      intro e' u' h
      rw [hd] at h
      cases h
      rw [List.length_drop] at hlt
      exact Nat.lt_of_not_le hlt
termination_by d.length
decreasing_by simp only [List.length_drop]; omega

theorem DecInv_strict_prefix {m p q : Bytes} (hm : m.length < 2 ^ 64) (hs : frame m = p ++ q)
    (hq : q ≠ []) : DecInv p := by
  intro e u hd
  have hlen := congrArg List.length hs
  rw [frame_length, List.length_append] at hlen
  have := List.length_pos_iff.2 hq
  by_cases hL : (encodeVar m.length).length ≤ p.length
  · rw [decodeVar_prefix_complete hm hs hL] at hd
    cases hd
    omega
  · rw [decodeVar_prefix_incomplete hs (Nat.lt_of_not_le hL)] at hd
    cases hd

theorem parse_prefix : ∀ (ms : List Bytes) (data r : Bytes), (∀ m ∈ ms, m.length < 2 ^ 64) →
    data ++ r = frames ms →
    ∃ k p, parse data = (p, ms.take k) ∧ p ++ r = frames (ms.drop k) ∧ StrictPre p (ms.drop k)
  | [], data, r, _, h => by
    obtain ⟨rfl, rfl⟩ := List.append_eq_nil_iff.1 h
    exact ⟨0, [], rfl, rfl, .inl rfl⟩
  | m :: ms, data, r, hms, h => by
    have hm := hms m List.mem_cons_self
    rw [frames_cons] at h
    by_cases hlen : (frame m).length ≤ data.length
    · obtain ⟨t, rfl, ht⟩ := split_of_le h.symm hlen
      obtain ⟨k, p, hk, hp, hsp⟩ :=
        parse_prefix ms t r (fun x hx => hms x (List.mem_cons_of_mem _ hx)) ht.symm
      exact ⟨k + 1, p, by rw [parse_frame_append m t hm, hk]; rfl, hp, hsp⟩
    · obtain ⟨q, hq, hr⟩ := split_of_le h (Nat.le_of_not_le hlen)
      have hqne : q ≠ [] := by
        rintro rfl; rw [List.append_nil] at hq; rw [hq] at hlen; exact hlen (Nat.le_refl _)
      exact ⟨0, data, parse_of_DecInv (DecInv_strict_prefix hm hq hqne), h,
        .inr ⟨m, ms, q, rfl, hq, hqne⟩⟩

theorem tryDecode_spec : ∀ (fuel : Nat) (data r : Bytes) (ms : List Bytes),
    (∀ m ∈ ms, m.length < 2 ^ 64) → data ++ r = frames ms → data.length < fuel →
    ∃ k p, tryDecode fuel data = (p, ms.take k) ∧ p ++ r = frames (ms.drop k) ∧
      StrictPre p (ms.drop k) := by
  intro fuel data r ms hms h hf
  rw [tryDecode_eq_parse hf]
  exact parse_prefix ms data r hms h

/-! ### the slow path -/

theorem finishFrame_eq (s d : Bytes) (e u : Nat) (hu : u ≤ s.length) (hle : s.length - u ≤ e) :
    finishFrame s e u d =
      if d.length < e - (s.length - u) then some (s ++ d, none)
      else some (s ++ d.take (e - (s.length - u)),
        some (s.drop u ++ d.take (e - (s.length - u)), d.drop (e - (s.length - u)))) := by
  rw [finishFrame, if_neg (Nat.not_lt.2 hu), if_neg (Nat.not_lt.2 hle)]
  dsimp only
  rw [List.drop_append_of_le_length hu]

theorem finishFrame_spec (m s q d : Bytes) (hs : frame m = s ++ q)
    (hL : (encodeVar m.length).length ≤ s.length) :
    finishFrame s m.length (encodeVar m.length).length d =
      if d.length < q.length then some (s ++ d, none)
      else some (s ++ d.take q.length,
                 some ((s ++ d.take q.length).drop (encodeVar m.length).length, d.drop q.length)) := by
  have hlen := congrArg List.length hs
  rw [frame_length, List.length_append] at hlen
  rw [finishFrame_eq s d _ _ hL (by omega),
    show m.length - (s.length - (encodeVar m.length).length) = q.length by omega,
    List.drop_append_of_le_length hL]

/-- the `match` is the tail of `decode` as it unfolds; `≤`: the buffer may end with its size prefix -/
theorem finish_eq_parse (s d : Bytes) (e u : Nat) (hd : decodeVar s = some (e, u))
    (hle : s.length - u ≤ e) :
    (match finishFrame s e u d with
      | none => none
      | some (st, none) => some (st, ([] : List Bytes))
      | some (_, some (msg, rest)) =>
        let (st', outs) := tryDecode (rest.length + 1) rest
        some (st', msg :: outs)) = some (parse (s ++ d)) := by
  have hu := (decodeVar_used_le hd).2.1
  rw [finishFrame_eq s d e u hu hle, parse_eq, decodeVar_append_some s d _ hd]
  dsimp only
  -- `t`: the part of the payload already stored
  rw [List.drop_append_of_le_length hu, List.length_append, ← List.length_drop] at *
  generalize s.drop u = t at *
  by_cases hlt : d.length < e - t.length
  · rw [if_pos hlt, if_neg (by omega)]
  · rw [if_neg hlt, if_pos (by omega), List.take_append, List.drop_append, List.take_of_length_le hle,
      List.drop_eq_nil_of_le hle, List.nil_append]
    rfl

/-- `max_remaining` of `store_and_decoded_data` -/
def maxRemaining (stored data : Bytes) : Nat := min (maxEncodedSize - stored.length) (sizeEnd data)

theorem storeAndDecoded_none {st : Bytes} (c : Bytes) (h : decodeVar st = none) :
    storeAndDecoded st c =
      match decodeVar (st ++ c.take (maxRemaining st c)) with
      | some (e, u) => finishFrame (st ++ c.take (maxRemaining st c)) e u (c.drop (maxRemaining st c))
      | none => some (st ++ c.take (maxRemaining st c), none) := by
  rw [storeAndDecoded, h]; rfl

theorem maxRemaining_cases (st c : Bytes) (hd : decodeVar st = none) :
    (∃ e, decodeVar (st ++ c.take (maxRemaining st c))
      = some (e, (st ++ c.take (maxRemaining st c)).length)) ∨
    (decodeVar (st ++ c.take (maxRemaining st c)) = none ∧
      (c.length ≤ maxRemaining st c ∨ maxEncodedSize ≤ (st ++ c.take (maxRemaining st c)).length)) := by
  -- the literal 10: the nine continuation bytes of `decodeVar_of_split` and the closing one
  rw [maxRemaining, show maxEncodedSize = 10 from rfl]
  by_cases h10 : 10 ≤ st.length
  · rw [Nat.sub_eq_zero_of_le h10, Nat.zero_min, List.take_zero, List.append_nil]
    exact .inr ⟨hd, .inr h10⟩
  · have hst := decodeVar_none_cont hd
    rw [List.take_of_length_le (by omega)] at hst
    rcases msb_split c with hc | ⟨a, x, b, rfl, ha, hx⟩
    · have h1 := sizeEnd_cont [] c hc
      rw [List.append_nil] at h1
      refine .inr ⟨decodeVar_all_msb fun y hy => ?_, ?_⟩
      · exact (List.mem_append.1 hy).elim (hst y) fun h => hc y (List.mem_of_mem_take h)
      · rw [h1, List.length_append, List.length_take]; omega
    · rw [sizeEnd_cont _ a ha, sizeEnd, if_pos ((and_80_eq_zero _ x.toNat_lt).2 hx)]
      by_cases hk : a.length + 1 ≤ 10 - st.length
      · -- the byte that ends the size prefix is taken, and nothing behind it
        rw [Nat.min_eq_right hk, List.append_cons a, List.take_left' (l₁ := a ++ [x]) (by simp),
          ← List.append_assoc]
        have he := (decodeVar_of_split (st ++ a) x [] (fun y hy => (List.mem_append.1 hy).elim (hst y) (ha y)) hx).1
          (by rw [List.length_append]; omega)
        exact .inl (he.imp fun e he => by rw [he, List.length_append (as := st ++ a), List.length_singleton])
      · rw [Nat.min_eq_left (by omega), List.take_append_of_le_length (by omega)]
        refine .inr ⟨decodeVar_all_msb fun y hy => ?_, .inr ?_⟩
        · exact (List.mem_append.1 hy).elim (hst y) fun h => ha y (List.mem_of_mem_take h)
        · rw [List.length_append, List.length_take]; omega

theorem decode_stuck (st c : Bytes) (hne : st ≠ []) (hd : decodeVar st = none)
    (hd' : decodeVar (st ++ c.take (maxRemaining st c)) = none) :
    decode st c = some (st ++ c.take (maxRemaining st c), []) := by
  rw [decode, if_neg hne, storeAndDecoded_none c hd, hd']

theorem decode_eq_parse (st c : Bytes) (hinv : DecInv st)
    (hg : st ≠ [] → decodeVar st = none → decodeVar (st ++ c.take (maxRemaining st c)) = none →
      (st ++ c.take (maxRemaining st c)).length < maxEncodedSize) :
    decode st c = some (parse (st ++ c)) := by
  by_cases hne : st = []
  · rw [hne]; rfl
  · cases hd : decodeVar st with
    | some eu =>
      rw [decode, if_neg hne, storeAndDecoded, hd]
      exact finish_eq_parse st c eu.1 eu.2 hd (Nat.le_of_lt (hinv _ _ hd))
    | none =>
      rcases maxRemaining_cases st c hd with ⟨e, hd'⟩ | ⟨hd', hfull⟩
      · rw [decode, if_neg hne, storeAndDecoded_none c hd, hd']
        refine (finish_eq_parse _ _ e _ hd' (by rw [Nat.sub_self]; exact Nat.zero_le _)).trans ?_
        rw [List.append_assoc, List.take_append_drop]
      · have hall := List.take_of_length_le (hfull.resolve_right (Nat.not_le.2 (hg hne hd hd')))
        rw [decode_stuck st c hne hd hd', hall, parse_of_DecInv (DecInv_of_none (hall ▸ hd'))]

theorem decode_total (st c : Bytes) (hinv : DecInv st) :
    ∃ st' outs, decode st c = some (st', outs) ∧ DecInv st' := by
  by_cases hg : st ≠ [] ∧ decodeVar st = none ∧ decodeVar (st ++ c.take (maxRemaining st c)) = none
  · exact ⟨_, _, decode_stuck st c hg.1 hg.2.1 hg.2.2, DecInv_of_none hg.2.2⟩
  · exact ⟨_, _, decode_eq_parse st c hinv fun h1 h2 h3 => absurd ⟨h1, h2, h3⟩ hg, DecInv_parse _⟩

theorem feed_total_general : ∀ (chunks : List Bytes) (st : Bytes), DecInv st →
    ∃ st' outs, feed st chunks = some (st', outs) ∧ DecInv st'
  | [], st, hinv => ⟨st, [], rfl, hinv⟩
  | c :: cs, st, hinv => by
    obtain ⟨st1, o1, hd, hinv1⟩ := decode_total st c hinv
    obtain ⟨st2, o2, hf, hinv2⟩ := feed_total_general cs st1 hinv1
    exact ⟨st2, o1 ++ o2, by simp only [feed, hd, hf], hinv2⟩

theorem complete_known (m : Bytes) (ms' : List Bytes) (s q c r : Bytes)
    (hms : ∀ x ∈ m :: ms', x.length < 2 ^ 64)
    (hs : frame m = s ++ q) (_hq : q ≠ []) (hL : (encodeVar m.length).length ≤ s.length)
    (hstream : c ++ r = q ++ frames ms') :
    ∃ k p', (match finishFrame s m.length (encodeVar m.length).length c with
        | none => none
        | some (st, none) => some (st, ([] : List Bytes))
        | some (_, some (msg, rest)) =>
          let (st', outs) := tryDecode (rest.length + 1) rest
          some (st', msg :: outs)) = some (p', (m :: ms').take k) ∧
      p' ++ r = frames ((m :: ms').drop k) ∧ StrictPre p' ((m :: ms').drop k) := by
  have hlen := congrArg List.length hs
  rw [frame_length, List.length_append] at hlen
  rw [finish_eq_parse s c _ _ (decodeVar_prefix_complete (hms m List.mem_cons_self) hs hL)
    (by omega)]
  obtain ⟨k, p', h1, h2⟩ := parse_prefix (m :: ms') (s ++ c) r hms
    (by rw [List.append_assoc, hstream, ← List.append_assoc, ← hs, frames_cons])
  exact ⟨k, p', by rw [h1], h2⟩

theorem frames_prefix_none : ∀ (ms : List Bytes), (∀ m ∈ ms, m.length < 2 ^ 64) → ∀ (s y : Bytes),
    s ++ y = frames ms → decodeVar s = none → s.length < maxEncodedSize
  | [], _, s, y, h, _ => by rw [(List.append_eq_nil_iff.1 h).1]; decide
  | m :: ms, hms, s, y, h, hd => Nat.lt_of_not_le fun h10 => by
    have hm := hms m List.mem_cons_self
    rw [frames_cons, frame, List.append_assoc] at h
    rw [decodeVar_prefix_complete hm h.symm
      (Nat.le_trans (encodeVar_length_le _ hm) h10)] at hd
    cases hd

/-- one `decode` call emits the next `k` whole messages and is left with a strict prefix of the following -/
theorem decode_step (ms : List Bytes) (hms : ∀ x ∈ ms, x.length < 2 ^ 64) (p c r : Bytes)
    (hsp : StrictPre p ms) (hstream : p ++ (c ++ r) = frames ms) :
    ∃ k p', decode p c = some (p', ms.take k) ∧ p' ++ r = frames (ms.drop k) ∧
      StrictPre p' (ms.drop k) := by
  have hinv : DecInv p := by
    rcases hsp with rfl | ⟨m, ms', q, rfl, hs, hq⟩
    · exact DecInv_nil
    · exact DecInv_strict_prefix (hms m List.mem_cons_self) hs hq
  have hdec := decode_eq_parse p c hinv fun _ _ hd' =>
    frames_prefix_none ms hms _ (c.drop (maxRemaining p c) ++ r)
      (by rw [List.append_assoc, ← List.append_assoc (c.take _), List.take_append_drop]; exact hstream) hd'
  obtain ⟨k, p', h1, h2⟩ := parse_prefix ms (p ++ c) r hms (by rw [List.append_assoc]; exact hstream)
  exact ⟨k, p', by rw [hdec, h1], h2⟩

theorem feed_prefix_general : ∀ (chunks : List Bytes) (ms : List Bytes) (p r : Bytes),
    (∀ x ∈ ms, x.length < 2 ^ 64) → StrictPre p ms → p ++ (chunks.flatten ++ r) = frames ms →
    ∃ k p', feed p chunks = some (p', ms.take k) ∧ p' ++ r = frames (ms.drop k) ∧
      StrictPre p' (ms.drop k) := by
  intro chunks
  induction chunks with
  | nil =>
    intro ms p r hms hsp h
    exact ⟨0, p, rfl, h, hsp⟩
  | cons c cs ih =>
    intro ms p r hms hsp h
    simp only [List.flatten_cons, List.append_assoc] at h
    obtain ⟨k, p', hk, hp', hsp'⟩ := decode_step ms hms p c (cs.flatten ++ r) hsp h
    have hms' : ∀ x ∈ ms.drop k, x.length < 2 ^ 64 := fun x hx => hms x (List.mem_of_mem_drop hx)
    obtain ⟨k2, p2, hk2, hp2, hsp2⟩ := ih (ms.drop k) p' r hms' hsp' hp'
    rw [List.drop_drop] at hp2 hsp2
    exact ⟨k + k2, p2, by simp only [feed, hk, hk2, List.take_add], hp2, hsp2⟩

theorem StrictPre_eq_nil {p : Bytes} {ms : List Bytes} (hsp : StrictPre p ms) (h : p = frames ms) :
    p = [] ∧ ms = [] := by
  have hl := congrArg List.length h
  rcases hsp with rfl | ⟨m, ms', q, rfl, hs, hq⟩
  · cases ms with
    | nil => exact ⟨rfl, rfl⟩
    | cons m ms' =>
      have := encodeVar_length_pos m.length
      rw [frames_cons, List.length_append, frame_length, List.length_nil] at hl
      omega
  · have := List.length_pos_iff.2 hq
    rw [frames_cons, hs, List.length_append, List.length_append] at hl
    omega

theorem feed_general : ∀ (chunks : List Bytes) (ms : List Bytes) (p : Bytes),
    (∀ x ∈ ms, x.length < 2 ^ 64) → StrictPre p ms → p ++ chunks.flatten = frames ms →
    feed p chunks = some ([], ms) := by
  intro chunks ms p hms hsp h
  obtain ⟨k, p', hk, hp', hsp'⟩ :=
    feed_prefix_general chunks ms p [] hms hsp (by rwa [List.append_nil])
  rw [List.append_nil] at hp'
  obtain ⟨rfl, hd⟩ := StrictPre_eq_nil hsp' hp'
  rw [hk, ← List.take_append_drop k ms, hd, List.append_nil, List.take_take, Nat.min_self]

theorem feed_chunking_independent (ms : List Bytes) (hms : ∀ m ∈ ms, m.length < 2 ^ 64)
    (chunks : List Bytes) (h : chunks.flatten = frames ms) : feed [] chunks = some ([], ms) :=
  feed_general chunks ms [] hms (Or.inl rfl) h

end Mio
