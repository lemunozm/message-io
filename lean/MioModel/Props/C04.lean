import MioModel.Lemmas.Net
/-! # C04 — A connection ends exactly once: Disconnected xor a successful local remove() -/
namespace Mio.C04
open Mio.Net

/-- For every endpoint, in every reachable state: the number of `Disconnected` events plus the number
of `remove()` calls that returned `true` is at most one — whatever the interleaving of the peer's
close with `remove()` calls from any number of threads or from inside the callback. -/
theorem end_exactly_once (s : St) (h : Reachable s) (id : Nat) :
    s.log.count (.disconnected id) + s.removeTrue.count id ≤ 1 :=
  Nat.le_trans (reachable_endsLe s h id) (List.nodup_iff_count.mp (reachable_fresh s h).deregNodup id)

/-- in particular at most one of any number of concurrent `remove(id)` calls returns `true` -/
theorem remove_true_once (s : St) (h : Reachable s) (id : Nat) : s.removeTrue.count id ≤ 1 := by
  have := end_exactly_once s h id; omega

/-- `Disconnected` is emitted only by the processor step whose own deregistration succeeded, after
the `receive` call that reported the disconnection returned: all `Message` callbacks of that read
precede it (the step is only enabled in the `afterReceive` phase, which follows the last `deliver`) -/
theorem disconnected_after_data (s s' : St) (a : Act) (id : Nat) (hr : Reachable s) (hs : step s a = some s')
    (hnew : s'.log.count (.disconnected id) > s.log.count (.disconnected id)) :
    (∃ d, s.proc = .afterReceive id d) ∧ id ∉ s'.live := by
  have _ := hr  -- not used: the statement speaks of reachable states like the rest of the property
  have quiet : ∀ {e : Ev}, e ≠ .disconnected id →
      ¬ (s.log ++ [e]).count (.disconnected id) > s.log.count (.disconnected id) := by
    intro e he; rw [List.count_append, List.count_singleton, if_neg (by simpa using he)]; exact Nat.lt_irrefl _
  cases Step.of_step hs with
  | finishDisc id0 hp hl =>
    by_cases he : id0 = id
    · subst he; exact ⟨⟨true, hp⟩, not_mem_filter_ne _ _⟩
    · exact absurd hnew (quiet (by simpa using he))
  | pendingReady _ _ r => exact absurd hnew (quiet (by cases r.listener <;> simp [estEv]))
  | pendingRefused | deliver | acceptData => exact absurd hnew (quiet (by simp))
  | _ => exact absurd hnew (Nat.lt_irrefl _)

/-- after the end (whichever way), forever: `send` → `ResourceNotFound`, `is_ready` → `None`,
`remove` → `false`, in every continuation of the history (ids are never reused) -/
theorem after_end (s s' s1 : St) (acts : List Act) (id : Nat) (hr : Reachable s) (hid : id < s.nextRemote)
    (hgone : id ∉ s.live) (hrun : run s acts = some s') :
    (∀ a, step s' (.send id a) = some s1 → s1.results.getLast? = some ("send", id, "ResourceNotFound")) ∧
    (step s' (.isReady id) = some s1 → s1.results.getLast? = some ("isReady", id, "None")) ∧
    (step s' (.remove id) = some s1 → s1.results.getLast? = some ("remove", id, "false")) := by
  have _ := hr  -- not used either
  have hnl := (run_not_live acts s s' id hid hgone hrun).1
  refine ⟨fun a h => ?_, fun h => ?_, fun h => ?_⟩
  · cases (step_send_of_not_live hnl a).symm.trans h; exact getLast?_record ..
  · cases (step_isReady_of_not_live hnl).symm.trans h; exact getLast?_record ..
  · cases Step.of_step h with
    | removeTrue _ hl => exact absurd hl hnl
    | removeFalse => exact getLast?_record ..

/-- a successful `remove()` takes the resource out of the registry at once; with no processor step
holding the register the socket is closed (`openSockets`) -/
theorem remove_releases (s s' : St) (id : Nat) (hs : step s (.remove id) = some s') :
    id ∉ s'.live ∧ (s.proc = .idle → id ∉ openSockets s') := by
  have closed : ∀ t : St, id ∉ t.live → t.proc = s.proc →
      id ∉ t.live ∧ (s.proc = .idle → id ∉ openSockets t) :=
    fun t hn hp => ⟨hn, fun hidle => by rw [openSockets, hp, hidle]; exact hn⟩
  cases Step.of_step hs with
  | removeTrue => exact closed _ (not_mem_filter_ne _ _) rfl
  | removeFalse _ hl => exact closed _ hl rfl

end Mio.C04
