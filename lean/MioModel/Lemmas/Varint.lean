import MioModel.Varint
import MioModel.Lemmas.Basic
/-! Lemmas about the LEB128 model.  The bit tests of `decodeVarAux` are turned into arithmetic once
(`decodeVarAux_cons`) and the lemmas about the decoder rest on that equation.  A *continuation byte* is one
with `128 ≤ y.toNat`; `msb_split` cuts a byte string at its first byte without the bit. -/
namespace Mio

theorem and_7f (x : Nat) : x &&& 0x7f = x % 128 := Nat.and_two_pow_sub_one_eq_mod x 7

theorem and_80_eq_zero (x : Nat) (h : x < 256) : (x &&& 0x80 = 0) ↔ x < 128 := by
  rw [show 0x80 = 2 ^ 7 from rfl, and_two_pow, Nat.mod_eq_of_lt (Nat.div_lt_of_lt_mul h), Nat.mul_eq_zero,
    Nat.div_eq_zero_iff]
  omega

theorem or_low {acc sh : Nat} (d : Nat) (h : acc < 2 ^ sh) : acc ||| d * 2 ^ sh = d * 2 ^ sh + acc := by
  rw [← Nat.shiftLeft_eq, or_shiftLeft h, Nat.shiftLeft_eq, Nat.mul_comm, Nat.add_comm]

theorem div_mod_shift (n b p : Nat) : n / b * (p * b) + n % b * p = n * p := by
  rw [Nat.mul_comm p, ← Nat.mul_assoc, ← Nat.add_mul, Nat.div_add_mod']

theorem decodeVarAux_cons (b : UInt8) (bs : Bytes) (acc sh : Nat) :
    decodeVarAux (b :: bs) acc sh =
      if b.toNat < 128 then some (acc ||| b.toNat % 128 * 2 ^ sh % 2 ^ 64, sh / 7 + 1)
      else if 63 < sh + 7 then none
      else decodeVarAux bs (acc ||| b.toNat % 128 * 2 ^ sh % 2 ^ 64) (sh + 7) := by
  simp only [decodeVarAux, and_7f, Nat.shiftLeft_eq, and_80_eq_zero _ b.toNat_lt,
    Nat.add_div_right _ (Nat.succ_pos 6), gt_iff_lt]

theorem encodeVar_lt {n : Nat} (h : n < 128) : encodeVar n = [UInt8.ofNat n] := by
  rw [encodeVar, dif_pos h]

theorem encodeVar_ge {n : Nat} (h : ¬ n < 128) :
    encodeVar n = UInt8.ofNat (n % 128 + 128) :: encodeVar (n / 128) := by
  rw [encodeVar, dif_neg h]

/-- Loop invariant of the round trip: with the accumulator below `2 ^ shift`, decoding `encodeVar n`
adds `n * 2 ^ shift`; the bound keeps every shift ≤ 63.  The shift need not be a multiple of 7: the byte
count is `shift / 7 + …` whatever it is. -/
theorem decodeVarAux_encodeVar (n : Nat) : ∀ (acc shift : Nat) (rest : Bytes),
    acc < 2 ^ shift → n * 2 ^ shift + acc < 2 ^ 64 →
    decodeVarAux (encodeVar n ++ rest) acc shift
      = some (n * 2 ^ shift + acc, shift / 7 + (encodeVar n).length) := by
  induction n using encodeVar.induct with
  | case1 n hn =>
    intro acc sh rest hacc hlt
    have hv : n * 2 ^ sh < 2 ^ 64 := Nat.lt_of_le_of_lt (Nat.le_add_right _ _) hlt
    rw [encodeVar_lt hn, List.cons_append, decodeVarAux_cons,
      UInt8.toNat_ofNat_of_lt' (Nat.lt_trans hn (by decide)), if_pos hn, Nat.mod_eq_of_lt hn,
      Nat.mod_eq_of_lt hv, or_low _ hacc, List.length_singleton]
  | case2 n hn ih =>
    intro acc sh rest hacc hlt
    have hm : n % 128 < 128 := Nat.mod_lt _ (Nat.succ_pos _)
    have hd : n % 128 * 2 ^ sh ≤ n * 2 ^ sh := Nat.mul_le_mul_right _ (Nat.mod_le _ _)
    have hv : n % 128 * 2 ^ sh < 2 ^ 64 :=
      Nat.lt_of_le_of_lt hd (Nat.lt_of_le_of_lt (Nat.le_add_right _ _) hlt)
    -- `128 ≤ n` and `n * 2 ^ sh < 2 ^ 64` leave room for another seven bits
    have hsh : ¬ 63 < sh + 7 := by
      have h1 : 2 ^ (sh + 7) ≤ n * 2 ^ sh := by
        rw [Nat.pow_add, Nat.mul_comm]; exact Nat.mul_le_mul_right _ (Nat.le_of_not_lt hn)
      have h2 : 2 ^ (sh + 7) < 2 ^ 64 :=
        Nat.lt_of_le_of_lt h1 (Nat.lt_of_le_of_lt (Nat.le_add_right _ _) hlt)
      exact Nat.not_lt.2 (Nat.le_of_lt_succ ((Nat.pow_lt_pow_iff_right (by decide)).1 h2))
    have hval : n / 128 * 2 ^ (sh + 7) + (n % 128 * 2 ^ sh + acc) = n * 2 ^ sh + acc := by
      rw [Nat.pow_add, ← Nat.add_assoc, div_mod_shift]
    have hacc' : n % 128 * 2 ^ sh + acc < 2 ^ (sh + 7) := by
      have : n % 128 * 2 ^ sh ≤ 127 * 2 ^ sh := Nat.mul_le_mul_right _ (Nat.le_of_lt_succ hm)
      rw [Nat.pow_add]; omega
    rw [encodeVar_ge hn, List.cons_append, decodeVarAux_cons,
      UInt8.toNat_ofNat_of_lt' (Nat.add_lt_add_right hm 128), if_neg (Nat.not_lt.2 (Nat.le_add_left _ _)),
      if_neg hsh, Nat.add_mod_right, Nat.mod_mod, Nat.mod_eq_of_lt hv, or_low _ hacc,
      ih _ _ rest hacc' (by rw [hval]; exact hlt), hval, List.length_cons,
      Nat.add_div_right _ (Nat.succ_pos 6), Nat.add_assoc, Nat.add_comm 1]

theorem decodeVarAux_encode (n : Nat) : ∀ (acc shift : Nat) (rest : Bytes),
    acc < 2 ^ shift → shift % 7 = 0 → n * 2 ^ shift + acc < 2 ^ 64 →
    decodeVarAux (encodeVar n ++ rest) acc shift
      = some (n * 2 ^ shift + acc, shift / 7 + (encodeVar n).length) :=
  fun acc shift rest hacc _ => decodeVarAux_encodeVar n acc shift rest hacc

theorem decodeVar_encodeVar (n : Nat) (h : n < 2 ^ 64) (rest : Bytes) :
    decodeVar (encodeVar n ++ rest) = some (n, (encodeVar n).length) := by
  have := decodeVarAux_encodeVar n 0 0 rest (by decide) (by rwa [Nat.pow_zero, Nat.mul_one])
  rwa [Nat.pow_zero, Nat.mul_one, Nat.zero_div, Nat.zero_add] at this

theorem encodeVar_ne_nil (n : Nat) : encodeVar n ≠ [] := by
  rw [encodeVar]; split <;> exact List.cons_ne_nil _ _

theorem encodeVar_length_pos (n : Nat) : 0 < (encodeVar n).length :=
  List.length_pos_iff.mpr (encodeVar_ne_nil n)

theorem encodeVar_shape (n : Nat) :
    ∃ a x, encodeVar n = a ++ [x] ∧ (∀ y ∈ a, 128 ≤ y.toNat) ∧ x.toNat < 128 := by
  induction n using encodeVar.induct with
  | case1 n hn =>
    exact ⟨[], _, encodeVar_lt hn, fun _ h => absurd h List.not_mem_nil,
      by rwa [UInt8.toNat_ofNat_of_lt' (Nat.lt_trans hn (by decide))]⟩
  | case2 n hn ih =>
    obtain ⟨a, x, h, ha, hx⟩ := ih
    have hm : n % 128 < 128 := Nat.mod_lt _ (Nat.succ_pos _)
    refine ⟨_ :: a, x, by rw [encodeVar_ge hn, h, List.cons_append], List.forall_mem_cons.2 ⟨?_, ha⟩, hx⟩
    rw [UInt8.toNat_ofNat_of_lt' (Nat.add_lt_add_right hm 128)]
    exact Nat.le_add_left _ _

theorem encodeVar_prefix_msb {n : Nat} {p q : Bytes} (h : encodeVar n = p ++ q) (hq : q ≠ []) :
    ∀ b ∈ p, 128 ≤ b.toNat := by
  obtain ⟨a, x, hs, ha, _⟩ := encodeVar_shape n
  rw [hs] at h
  rcases List.append_eq_append_iff.1 h with ⟨t, rfl, ht⟩ | ⟨t, rfl, _⟩
  · cases t with
    | nil => rwa [List.append_nil]
    | cons y ys =>
      rw [List.cons_append, List.cons.injEq] at ht
      exact absurd (List.append_eq_nil_iff.1 ht.2.symm).2 hq
  · exact fun b hb => ha b (List.mem_append_left _ hb)

theorem encodeVar_length_le_of_lt : ∀ k n, n < 2 ^ (7 * k) → 0 < k → (encodeVar n).length ≤ k := by
  intro k
  induction k with
  | zero => intro n _ h0; omega
  | succ k ih =>
    intro n hn _
    rw [encodeVar]
    split
    · exact Nat.succ_le_succ (Nat.zero_le _)
    · rename_i h128
      have hk : 0 < k := by
        rcases Nat.eq_zero_or_pos k with h0 | h0
        · subst h0; omega
        · exact h0
      have : n / 128 < 2 ^ (7 * k) := by
        rw [Nat.mul_add, Nat.pow_add] at hn
        exact Nat.div_lt_of_lt_mul (by rw [Nat.mul_comm]; exact hn)
      exact Nat.succ_le_succ (ih (n / 128) this hk)

theorem encodeVar_length_le (n : Nat) (h : n < 2 ^ 64) : (encodeVar n).length ≤ 10 :=
  encodeVar_length_le_of_lt 10 n (by omega) (by decide)

theorem msb_split : ∀ s : Bytes, (∀ y ∈ s, 128 ≤ y.toNat) ∨
    ∃ a x b, s = a ++ x :: b ∧ (∀ y ∈ a, 128 ≤ y.toNat) ∧ x.toNat < 128
  | [] => .inl fun _ h => nomatch h
  | c :: cs =>
    if hc : c.toNat < 128 then .inr ⟨[], c, cs, rfl, fun _ h => (nomatch h), hc⟩
    else (msb_split cs).imp (fun h => List.forall_mem_cons.2 ⟨Nat.le_of_not_lt hc, h⟩)
      fun ⟨a, x, b, hs, ha, hx⟩ =>
        ⟨c :: a, x, b, by rw [hs, List.cons_append], List.forall_mem_cons.2 ⟨Nat.le_of_not_lt hc, ha⟩, hx⟩

/-- the loop passes over continuation bytes as far as the shift allows, and fails behind -/
theorem decodeVarAux_cont (t : Bytes) : ∀ (a : Bytes) (acc sh : Nat),
    (∀ y ∈ a, 128 ≤ y.toNat) → sh ≤ 63 →
    (63 < sh + 7 * a.length → decodeVarAux (a ++ t) acc sh = none) ∧
    (sh + 7 * a.length ≤ 63 → ∃ acc', decodeVarAux (a ++ t) acc sh = decodeVarAux t acc' (sh + 7 * a.length))
  | [], acc, sh, _, hsh => ⟨fun h => absurd hsh (Nat.not_le.2 h), fun _ => ⟨acc, rfl⟩⟩
  | y :: a, acc, sh, ha, _ => by
    rw [List.cons_append, decodeVarAux_cons, if_neg (Nat.not_lt.2 (ha y List.mem_cons_self)), List.length_cons]
    split
    · exact ⟨fun _ => rfl, fun h => by omega⟩
    · next h63 =>
      obtain ⟨h1, h2⟩ := decodeVarAux_cont t a (acc ||| y.toNat % 128 * 2 ^ sh % 2 ^ 64) (sh + 7)
        (fun z hz => ha z (List.mem_cons_of_mem _ hz)) (Nat.le_of_not_lt h63)
      refine ⟨fun h => h1 (by omega), fun h => ?_⟩
      obtain ⟨acc', h'⟩ := h2 (by omega)
      exact ⟨acc', by rw [h']; congr 1; omega⟩

theorem decodeVar_all_msb {p : Bytes} (h : ∀ b ∈ p, 128 ≤ b.toNat) : decodeVar p = none := by
  have hc := decodeVarAux_cont [] p 0 0 h (Nat.zero_le _)
  rw [List.append_nil] at hc
  by_cases h63 : 63 < 0 + 7 * p.length
  · exact hc.1 h63
  · obtain ⟨_, h'⟩ := hc.2 (Nat.le_of_not_lt h63)
    exact h'

theorem decodeVar_of_split (a : Bytes) (x : UInt8) (b : Bytes) (ha : ∀ y ∈ a, 128 ≤ y.toNat)
    (hx : x.toNat < 128) :
    (a.length ≤ 9 → ∃ e, decodeVar (a ++ x :: b) = some (e, a.length + 1)) ∧
    (9 < a.length → decodeVar (a ++ x :: b) = none) := by
  have hc := decodeVarAux_cont (x :: b) a 0 0 ha (Nat.zero_le _)
  refine ⟨fun h9 => ?_, fun h9 => hc.1 (by omega)⟩
  obtain ⟨acc', h'⟩ := hc.2 (by omega)
  exact ⟨_, by
    rw [decodeVar, h', decodeVarAux_cons, if_pos hx, Nat.zero_add, Nat.mul_div_cancel_left _ (Nat.succ_pos 6)]⟩

theorem decodeVar_some_split {s : Bytes} {e u : Nat} (h : decodeVar s = some (e, u)) :
    ∃ a x b, s = a ++ x :: b ∧ (∀ y ∈ a, 128 ≤ y.toNat) ∧ x.toNat < 128 ∧
      u = a.length + 1 ∧ a.length ≤ 9 := by
  rcases msb_split s with hs | ⟨a, x, b, rfl, ha, hx⟩
  · rw [decodeVar_all_msb hs] at h; cases h
  · obtain ⟨h1, h2⟩ := decodeVar_of_split a x b ha hx
    by_cases h9 : a.length ≤ 9
    · obtain ⟨e', he⟩ := h1 h9
      rw [he] at h
      cases h
      exact ⟨a, x, b, rfl, ha, hx, rfl, h9⟩
    · rw [h2 (Nat.lt_of_not_le h9)] at h; cases h

theorem decodeVar_used_le {s : Bytes} {e u : Nat} (h : decodeVar s = some (e, u)) :
    1 ≤ u ∧ u ≤ s.length ∧ u ≤ 10 := by
  obtain ⟨a, x, b, rfl, _, _, rfl, hb⟩ := decodeVar_some_split h
  rw [List.length_append, List.length_cons]; omega

theorem decodeVar_none_cont {s : Bytes} (h : decodeVar s = none) :
    ∀ y ∈ s.take 10, 128 ≤ y.toNat := by
  rcases msb_split s with hs | ⟨a, x, b, rfl, ha, hx⟩
  · exact fun y hy => hs y (List.mem_of_mem_take hy)
  · by_cases h9 : a.length ≤ 9
    · obtain ⟨e, he⟩ := (decodeVar_of_split a x b ha hx).1 h9
      rw [he] at h; cases h
    · rw [List.take_append_of_le_length (by omega)]
      exact fun y hy => ha y (List.mem_of_mem_take hy)

theorem decodeVar_strict_prefix {n : Nat} {p q : Bytes} (h : encodeVar n = p ++ q) (hq : q ≠ []) :
    decodeVar p = none :=
  decodeVar_all_msb (encodeVar_prefix_msb h hq)

theorem decodeVarAux_append_some : ∀ (s t : Bytes) (acc sh : Nat) (r : Nat × Nat),
    decodeVarAux s acc sh = some r → decodeVarAux (s ++ t) acc sh = some r
  | [], _, _, _, _, h => nomatch h
  | b :: bs, t, acc, sh, r, h => by
    rw [List.cons_append, decodeVarAux_cons] at *
    split at h
    · next h0 => rw [if_pos h0]; exact h
    · next h0 =>
      rw [if_neg h0]
      split at h
      · cases h
      · next h1 => rw [if_neg h1]; exact decodeVarAux_append_some bs t _ _ r h

theorem decodeVar_append_some (s t : Bytes) (r : Nat × Nat) (h : decodeVar s = some r) :
    decodeVar (s ++ t) = some r := decodeVarAux_append_some s t 0 0 r h

theorem decodeVarAux_value_lt : ∀ (s : Bytes) (acc sh v u : Nat), sh % 7 = 0 → acc < 2 ^ sh →
    decodeVarAux s acc sh = some (v, u) → v < 2 ^ (7 * u)
  | [], _, _, _, _, _, _, h => nomatch h
  | c :: cs, acc, sh, v, u, hsh, hacc, h => by
    rw [decodeVarAux_cons] at h
    have hstep : acc ||| c.toNat % 128 * 2 ^ sh % 2 ^ 64 < 2 ^ (sh + 7) :=
      Nat.or_lt_two_pow
        (Nat.lt_of_lt_of_le hacc (Nat.pow_le_pow_right (by decide) (Nat.le_add_right _ _)))
        (Nat.lt_of_le_of_lt (Nat.mod_le _ _) (by
          rw [Nat.pow_add, Nat.mul_comm]
          exact Nat.mul_lt_mul_of_pos_left (Nat.mod_lt _ (by decide)) (Nat.two_pow_pos sh)))
    split at h
    · cases h
      rwa [show 7 * (sh / 7 + 1) = sh + 7 by omega]
    · split at h
      · cases h
      · exact decodeVarAux_value_lt cs _ (sh + 7) v u (by omega) hstep h

end Mio
