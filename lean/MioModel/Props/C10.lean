import MioModel.Lemmas.Decoder
import MioModel.Lemmas.SendLoop
import MioModel.Props.C12
/-! # C10 — Concurrent send() calls on one endpoint never corrupt or lose messages

`send` on a FramedTcp endpoint holds the connection's send lock for the whole frame (framed_tcp.rs),
`send` on a WebSocket endpoint holds the state mutex for the whole message (ws.rs), a UDP send is one
system call: in each case a send is one critical *section*, and any execution of any number of
threads is a sequence of sections (the lock order). -/
namespace Mio.C10
open Mio Mio.Stream Mio.Generated

/-- the wire is the concatenation of whole frames in lock order: no frame is ever interleaved with
bytes of another one, whatever the partial-write pattern inside each section -/
theorem framed_concurrent_wire (ss : List Section)
    (hs : ∀ s ∈ ss, (framedSend s.data s.sched).status = some .sent) :
    sectionsWire ss = frames (ss.map (·.data)) :=
  framedSend_wires (fun s : Section => (s.data, s.sched)) ss hs

/-- so the receiver reports exactly the sent messages, each once and whole, in lock order, for
every segmentation and read pattern -/
theorem framed_concurrent_whole (ss : List Section)
    (hs : ∀ s ∈ ss, (framedSend s.data s.sched).status = some .sent)
    (hlen : ∀ s ∈ ss, s.data.length < 2 ^ 64) (chunks : List Bytes)
    (hc : chunks.flatten = sectionsWire ss) : feed [] chunks = some ([], ss.map (·.data)) :=
  feed_chunking_independent _ (List.forall_mem_map.2 hlen) chunks (by rw [hc, framed_concurrent_wire ss hs])

/-- messages sent by one thread arrive in that thread's order: the received sequence restricted to a
thread is the sequence of that thread's sections -/
theorem per_thread_order (ss : List Section) (t : Nat) :
    ((ss.map fun s => (s.thread, s.data)).filter (fun p => p.1 == t)).map (·.2) =
      (ss.filter (fun s => s.thread == t)).map (·.data) := by
  rw [List.filter_map, List.map_map]; rfl

/-- WebSocket: a send is atomic, so the messages on the wire are whole and in lock order -/
theorem ws_concurrent_whole (sends : List (Nat × Bytes))
    (hs : ∀ s ∈ sends, s.2.length ≤ wsMaxPayloadLen) :
    (sends.map fun s => (wsSend s.2 true).2).flatten = sends.map (·.2) := by
  have : ∀ s ∈ sends, (wsSend s.2 true).2 = [s.2] := fun s h => by
    rw [wsSend, if_neg (Nat.not_lt.2 (hs s h))]; rfl
  rw [List.map_congr_left this, ← List.flatMap_def, ← List.map_eq_flatMap]

/-- a section is never abandoned half-way: inside the lock the FramedTcp send loop ignores `WouldBlock`
answers (any number) and returns before the whole frame is written only on a kernel error — so a stalled
receiver delays the other senders, it never makes one of them leave a torn frame on the wire -/
theorem framedSend_never_gives_up (data : Bytes) (sched : List WAns) :
    framedSend data (sched.filter (fun a => a != .wouldBlock)) = framedSend data sched ∧
    ((∀ a ∈ sched, a ≠ WAns.error) →
      (framedSend data sched).status = none ∨ (framedSend data sched).status = some .sent) :=
  ⟨framedSendLoop_wouldBlock_transparent _ data sched 0, framedSendLoop_no_error _ data sched 0⟩

/-! Non-vacuity: two threads, partial writes inside both sections. -/
example : sectionsWire [⟨0, [1, 2, 3], [.accept 1, .wouldBlock, .accept 2, .accept 9]⟩,
    ⟨1, [9], [.accept 2, .accept 1]⟩] = [3, 1, 2, 3, 1, 9] := by
  have h3 : encodeVar 3 = [3] := by rw [encodeVar]; simp
  have h1 : encodeVar 1 = [1] := by rw [encodeVar]; simp
  simp [sectionsWire, framedSend, framedSendLoop, h3, h1]

/-! ## Udp: one datagram per call

In M8 a `send` is one step (one `send`/`send_to` system call hands the kernel one whole datagram), so an
execution with any number of sending threads is a sequence of such steps in some interleaving, and
`Mio.C12.delivered_exactly_once` already speaks about every such sequence: each datagram whole, once.
What remains is the order per sending socket. -/

/-- the datagrams a receiver gets from one sender are that sender's datagrams in the order of its
send calls, whatever other senders did in between -/
theorem udp_concurrent_whole (w : Mio.Udp.World) (h : Mio.Udp.Reachable w) (j a : Nat) (s : Mio.Udp.Sock)
    (hj : w.socks[j]? = some s) :
    (s.events.map Mio.Udp.evDgram ++ s.queue.map (Mio.Udp.cutK s.kind)).filter (fun d => d.src = a) =
      ((Mio.Udp.expected w.log j s.kind).filter (fun d => d.src = a)).map (Mio.Udp.cutK s.kind) := by
  rw [Mio.C12.delivered_exactly_once w h j s hj, List.filter_map]
  congr 1
  apply List.filter_congr
  intro d _
  simp [Function.comp, Mio.Udp.cutK_src]

end Mio.C10
