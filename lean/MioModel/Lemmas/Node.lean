import MioModel.Node
import MioModel.Lemmas.Basic
/-! Invariants of the node model M4.

`stepNet`, `stepSig` and `step` are inverted once, into the transition tables `NetStep`, `SigStep` and
`Step`; every invariant is then preserved by case analysis on a table.  What a thread step does to the
callback lock (`LockEffect`), to a stopped node (`Frozen`) and to the shape of the program counters is
stated once per thread over the observers of `Pc`; `MInv` follows from these effects. -/
namespace Mio.Node

/-- The transitions of the network thread, one constructor per arm of `stepNet`; `timeout` stands for two. -/
inductive NetStep (s : St) (poll : Nat) : St → Prop
  | popSync (e rest) (hpc : s.pcN = .rTop) (hc : s.cache = e :: rest) (hm : s.mode = .sync) (hr : s.running = true) :
      NetStep s poll { s with cache := rest, pcN := .rChecked e }
  | popStopped (e rest) (hpc : s.pcN = .rTop) (hc : s.cache = e :: rest) (hm : s.mode = .sync)
      (hr : s.running = false) :
      NetStep s poll { s with cache := rest, pcN := .done }
  | popAsync (e rest) (hpc : s.pcN = .rTop) (hc : s.cache = e :: rest) (hm : s.mode = .async) :
      NetStep s poll { s with cache := rest, pcN := .rWant e }
  | replayEndSync (hpc : s.pcN = .rTop) (hc : s.cache = []) (hm : s.mode = .sync) :
      NetStep s poll { s with pcN := .idle, pcS := .idle }
  | replayEndAsync (hpc : s.pcN = .rTop) (hc : s.cache = []) (hm : s.mode = .async) :
      NetStep s poll { s with pcN := .idle }
  | rAcquire (e) (hpc : s.pcN = .rWant e) (hl : s.lock = none) :
      NetStep s poll { s with lock := some .net, pcN := .rLocked e }
  | rCheck (e) (hpc : s.pcN = .rLocked e) (hr : s.running = true) :
      NetStep s poll { s with pcN := .rChecked e }
  | rSkip (e) (hpc : s.pcN = .rLocked e) (hr : s.running = false) :
      NetStep s poll { s with lock := none, pcN := .done }
  | rEnter (e) (hpc : s.pcN = .rChecked e) :
      NetStep s poll { s with pcN := .rInCb e, log := s.log ++ [(.net, .net e)] }
  | rLeaveSync (e) (hpc : s.pcN = .rInCb e) (hm : s.mode = .sync) :
      NetStep s poll { s with pcN := .rTop }
  | rLeaveAsync (e) (hpc : s.pcN = .rInCb e) (hm : s.mode = .async) :
      NetStep s poll { s with lock := none, pcN := .rTop }
  | loopTest (hpc : s.pcN = .idle) (hr : s.running = true) : NetStep s poll { s with pcN := .fetch }
  | loopExit (hpc : s.pcN = .idle) (hr : s.running = false) : NetStep s poll { s with pcN := .done }
  | next (e rest) (hpc : s.pcN = .fetch) (hp : s.pending = e :: rest) :
      NetStep s poll { s with pending := rest, pcN := .want (.net e) }
  -- the poll timed out (`poll = 0`); also the arm of an empty batch, which `poll ≠ 0` excludes: no guard on `poll`
  | timeout (hpc : s.pcN = .fetch) (hp : s.pending = []) :
      NetStep s poll { s with pcN := .idle }
  | polled (e rest) (hpc : s.pcN = .fetch) (hp : s.pending = []) (hz : poll ≠ 0)
      (hb : (List.range poll).map (· + s.nextLive) = e :: rest) :
      NetStep s poll { s with pending := rest, nextLive := s.nextLive + poll, pcN := .want (.net e) }
  | acquire (e) (hpc : s.pcN = .want e) (hl : s.lock = none) :
      NetStep s poll { s with lock := some .net, pcN := .locked e }
  | check (e) (hpc : s.pcN = .locked e) (hr : s.running = true) : NetStep s poll { s with pcN := .checked e }
  | skipLast (e) (hpc : s.pcN = .locked e) (hr : s.running = false) (hp : s.pending = []) :
      NetStep s poll { s with lock := none, pcN := .idle }
  | skipMore (e) (hpc : s.pcN = .locked e) (hr : s.running = false) (hp : s.pending ≠ []) :
      NetStep s poll { s with lock := none, pcN := .fetch }
  | enter (e) (hpc : s.pcN = .checked e) : NetStep s poll { s with pcN := .inCb e, log := s.log ++ [(.net, e)] }
  | leaveLast (e) (hpc : s.pcN = .inCb e) (hp : s.pending = []) : NetStep s poll { s with lock := none, pcN := .idle }
  | leaveMore (e) (hpc : s.pcN = .inCb e) (hp : s.pending ≠ []) :
      NetStep s poll { s with lock := none, pcN := .fetch }

theorem NetStep.of_stepNet {s s' : St} {poll : Nat} (h : stepNet s poll = some s') : NetStep s poll s' := by
  unfold stepNet at h
  split at h
  · split at h <;> split at h
    · split at h <;> cases h
      · exact .popSync _ _ ‹_› ‹_› ‹_› ‹_›
      · exact .popStopped _ _ ‹_› ‹_› ‹_› (Bool.eq_false_iff.mpr ‹_›)
    · cases h; exact .popAsync _ _ ‹_› ‹_› ‹_›
    · cases h; exact .replayEndSync ‹_› ‹_› ‹_›
    · cases h; exact .replayEndAsync ‹_› ‹_› ‹_›
  · split at h <;> cases h
    exact .rAcquire _ ‹_› ‹_›
  · split at h <;> cases h
    · exact .rCheck _ ‹_› ‹_›
    · exact .rSkip _ ‹_› (Bool.eq_false_iff.mpr ‹_›)
  · cases h; exact .rEnter _ ‹_›
  · split at h <;> cases h
    · exact .rLeaveSync _ ‹_› ‹_›
    · exact .rLeaveAsync _ ‹_› ‹_›
  · split at h <;> cases h
    · exact .loopTest ‹_› ‹_›
    · exact .loopExit ‹_› (Bool.eq_false_iff.mpr ‹_›)
  · split at h
    · cases h; exact .next _ _ ‹_› ‹_›
    · split at h
      · cases h; exact .timeout ‹_› ‹_›
      · simp only at h
        split at h <;> cases h
        · exact .polled _ _ ‹_› ‹_› ‹_› ‹_›
        · exact .timeout ‹_› ‹_›
  · split at h <;> cases h
    exact .acquire _ ‹_› ‹_›
  · split at h <;> cases h
    · exact .check _ ‹_› ‹_›
    · split
      · exact .skipLast _ ‹_› (Bool.eq_false_iff.mpr ‹_›) ‹_›
      · exact .skipMore _ ‹_› (Bool.eq_false_iff.mpr ‹_›) ‹_›
  · cases h; exact .enter _ ‹_›
  · cases h; split
    · exact .leaveLast _ ‹_› ‹_›
    · exact .leaveMore _ ‹_› ‹_›
  · cases h

inductive SigStep (s : St) (arrives : Bool) : St → Prop
  | loopTest (hpc : s.pcS = .idle) (hr : s.running = true) : SigStep s arrives { s with pcS := .fetch }
  | loopExit (hpc : s.pcS = .idle) (hr : s.running = false) : SigStep s arrives { s with pcS := .done }
  | received (hpc : s.pcS = .fetch) (ha : arrives = true) :
      SigStep s arrives { s with nextSig := s.nextSig + 1, pcS := .want (.sig s.nextSig) }
  | timeout (hpc : s.pcS = .fetch) (ha : arrives = false) : SigStep s arrives { s with pcS := .idle }
  | acquire (e) (hpc : s.pcS = .want e) (hl : s.lock = none) :
      SigStep s arrives { s with lock := some .sig, pcS := .locked e }
  | check (e) (hpc : s.pcS = .locked e) (hr : s.running = true) : SigStep s arrives { s with pcS := .checked e }
  | skip (e) (hpc : s.pcS = .locked e) (hr : s.running = false) :
      SigStep s arrives { s with lock := none, pcS := .idle }
  | enter (e) (hpc : s.pcS = .checked e) : SigStep s arrives { s with pcS := .inCb e, log := s.log ++ [(.sig, e)] }
  | leave (e) (hpc : s.pcS = .inCb e) : SigStep s arrives { s with lock := none, pcS := .idle }

theorem SigStep.of_stepSig {s s' : St} {arrives : Bool} (h : stepSig s arrives = some s') : SigStep s arrives s' := by
  unfold stepSig at h
  split at h
  · split at h <;> cases h
    · exact .loopTest ‹_› ‹_›
    · exact .loopExit ‹_› (Bool.eq_false_iff.mpr ‹_›)
  · split at h <;> cases h
    · exact .received ‹_› ‹_›
    · exact .timeout ‹_› (Bool.eq_false_iff.mpr ‹_›)
  · split at h <;> cases h
    exact .acquire _ ‹_› ‹_›
  · split at h <;> cases h
    · exact .check _ ‹_› ‹_›
    · exact .skip _ ‹_› (Bool.eq_false_iff.mpr ‹_›)
  · cases h; exact .enter _ ‹_›
  · cases h; exact .leave _ ‹_›
  · cases h

inductive Step (s : St) : Act → St → Prop
  | startSync (hpc : s.pcN = .notStarted) (hm : s.mode = .sync) : Step s .start { s with pcN := .rTop }
  | startAsync (hpc : s.pcN = .notStarted) (hm : s.mode = .async) :
      Step s .start { s with pcN := .rTop, pcS := .idle, lock := some .caller }
  | callerRelease (hl : s.lock = some .caller) : Step s .callerRelease { s with lock := none }
  | net {poll s'} (h : NetStep s poll s') : Step s (.net poll) s'
  | sig {arrives s'} (h : SigStep s arrives s') : Step s (.sig arrives) s'
  | stopInNet (hin : inCallback s.pcN = true) :
      Step s (.stopIn .net) { s with running := false, stopInCb := some (s.stopInCb.getD s.log.length) }
  | stopInSig (hin : inCallback s.pcS = true) :
      Step s (.stopIn .sig) { s with running := false, stopInCb := some (s.stopInCb.getD s.log.length) }
  | stopExt :
      Step s .stopExt
        { s with running := false, stoppedBeforeStart := s.stoppedBeforeStart || (s.pcN == .notStarted) }

theorem Step.of_step {s s' : St} {a : Act} (h : step s a = some s') : Step s a s' := by
  cases a with
  | start =>
    simp only [step] at h
    split at h
    · split at h <;> cases h
      · exact .startSync ‹_› ‹_›
      · exact .startAsync ‹_› ‹_›
    · cases h
  | callerRelease =>
    simp only [step] at h
    split at h <;> cases h
    exact .callerRelease ‹_›
  | net poll => exact .net (NetStep.of_stepNet h)
  | sig arrives => exact .sig (SigStep.of_stepSig h)
  | stopIn t =>
    cases t <;> simp only [step] at h <;> split at h <;> cases h
    · exact absurd ‹_› (by simp [inCallback])
    · exact .stopInNet ‹_›
    · exact .stopInSig ‹_›
  | stopExt => cases h; exact .stopExt

variable {s s' : St} {poll : Nat} {arrives : Bool}

/-! ### the observers of a program counter -/

def isChecked : Pc → Bool
  | .rChecked _ | .checked _ => true
  | _ => false

def inReplay : Pc → Bool
  | .notStarted | .rTop | .rWant _ | .rLocked _ | .rChecked _ | .rInCb _ => true
  | _ => false

def asyncPc : Pc → Bool
  | .rWant _ | .rLocked _ => true
  | _ => false

def sigPcOk : Pc → Bool
  | .notStarted | .idle | .fetch | .want _ | .locked _ | .checked _ | .inCb _ | .done => true
  | _ => false

/-- mutual exclusion and the effect of an in-callback / before-start `stop()` -/
structure MInv (s : St) : Prop where
  lockN : s.lock = some .net ↔ holdsLockN s.mode s.pcN = true
  lockS : s.lock = some .sig ↔ holdsLockPc s.pcS = true
  sigOk : sigPcOk s.pcS = true
  asyncOnly : asyncPc s.pcN = true → s.mode = .async
  syncReplay : s.mode = .sync → inReplay s.pcN = true → s.pcS = .notStarted
  notStarted : s.pcN = .notStarted → s.log = [] ∧ s.pcS = .notStarted ∧ s.lock = none
  stopIn : ∀ k, s.stopInCb = some k → s.running = false ∧ s.log.length = k ∧
    isChecked s.pcN = false ∧ isChecked s.pcS = false
  stopBefore : s.stoppedBeforeStart = true → s.running = false ∧ s.log = [] ∧
    isChecked s.pcN = false ∧ isChecked s.pcS = false

theorem MInv_init (mode : Mode) (c : Nat) : MInv (init mode c) := by
  constructor <;> simp [init, holdsLockN, holdsLockPc, sigPcOk, inReplay, isChecked, asyncPc]

/-! ### what a thread step does -/

/-- no thread step writes the mode, the `running` flag or the ghosts of `stop()` -/
structure SameFlags (s s' : St) : Prop where
  mode : s'.mode = s.mode
  running : s'.running = s.running
  stopInCb : s'.stopInCb = s.stopInCb
  stoppedBeforeStart : s'.stoppedBeforeStart = s.stoppedBeforeStart

theorem NetStep.flags (h : NetStep s poll s') : SameFlags s s' := by
  cases h <;> exact ⟨rfl, rfl, rfl, rfl⟩

theorem SigStep.flags (h : SigStep s arrives s') : SameFlags s s' := by
  cases h <;> exact ⟨rfl, rfl, rfl, rfl⟩

theorem SigStep.frame (h : SigStep s arrives s') :
    s'.pcN = s.pcN ∧ s'.cache = s.cache ∧ s'.pending = s.pending := by
  cases h <;> exact ⟨rfl, rfl, rfl⟩

/-- the one step of the network thread that touches the signal thread spawns it, at the end of the
synchronous replay -/
theorem NetStep.pcS (h : NetStep s poll s') :
    s'.pcS = s.pcS ∨ (s.mode = .sync ∧ inReplay s.pcN = true ∧ s'.pcS = .idle) := by
  cases h <;> simp [*, inReplay]

theorem NetStep.started (h : NetStep s poll s') : s'.pcN ≠ .notStarted := by
  cases h <;> exact Pc.noConfusion

theorem SigStep.alive (h : SigStep s arrives s') :
    s.pcS ≠ .notStarted ∧ sigPcOk s'.pcS = true := by
  cases h <;> simp [*, sigPcOk]

/-- The replay is never re-entered.  (The effect lemmas are named after the observer they are about;
inside them the observer itself has to be written `Node.inReplay`.) -/
theorem NetStep.inReplay (h : NetStep s poll s') (hr : inReplay s'.pcN = true) :
    inReplay s.pcN = true ∧ s'.pcS = s.pcS ∧ s'.pending = s.pending := by
  cases h <;> simp_all [Node.inReplay]

theorem NetStep.asyncPc (h : NetStep s poll s') (ha : asyncPc s'.pcN = true) :
    s.mode = .async ∨ asyncPc s.pcN = true := by
  cases h <;> simp_all [Node.asyncPc]

/-- What a thread step does to the callback lock, given whether the thread counts as its holder before
(`held`) and after (`held'`): nothing, or it takes the free lock, or it gives its own back. -/
def LockEffect (me : Owner) (l l' : Option Owner) (held held' : Bool) : Prop :=
  (l' = l ∧ held' = held) ∨ (l = none ∧ l' = some me ∧ held' = true) ∨
    (held = true ∧ l' = none ∧ held' = false)

theorem NetStep.lockEffect (h : NetStep s poll s') (ha : Node.asyncPc s.pcN = true → s.mode = .async) :
    LockEffect .net s.lock s'.lock (holdsLockN s.mode s.pcN) (holdsLockN s'.mode s'.pcN) := by
  cases h <;> simp_all [LockEffect, holdsLockN, holdsLockPc, Node.asyncPc]

theorem SigStep.lockEffect (h : SigStep s arrives s') :
    LockEffect .sig s.lock s'.lock (holdsLockPc s.pcS) (holdsLockPc s'.pcS) := by
  cases h <;> simp [*, LockEffect, holdsLockPc]

theorem LockEffect.preserved {me other : Owner} {l l' : Option Owner} {held held' o : Bool}
    (e : LockEffect me l l' held held') (hne : other ≠ me) (hme : l = some me ↔ held = true)
    (hot : l = some other ↔ o = true) : (l' = some me ↔ held' = true) ∧ (l' = some other ↔ o = true) := by
  rcases e with ⟨rfl, rfl⟩ | ⟨rfl, rfl, rfl⟩ | ⟨rfl, rfl, rfl⟩
  · exact ⟨hme, hot⟩
  · simpa [hne.symm] using hot
  · have := hme.2 rfl; subst this; simpa [hne.symm] using hot

/-- a stopped node in which no thread is past its last `is_running()` test -/
def Frozen (s : St) : Prop := s.running = false ∧ isChecked s.pcN = false ∧ isChecked s.pcS = false

theorem NetStep.log (h : NetStep s poll s') :
    s'.log = s.log ∨ (isChecked s.pcN = true ∧ ∃ e, s'.log = s.log ++ [(.net, e)]) := by
  cases h with
  | rEnter e hpc | enter e hpc => exact .inr ⟨by rw [hpc]; rfl, _, rfl⟩
  | _ => exact .inl rfl

theorem SigStep.log (h : SigStep s arrives s') :
    s'.log = s.log ∨ (isChecked s.pcS = true ∧ ∃ e, s'.log = s.log ++ [(.sig, e)]) := by
  cases h with
  | enter e hpc => exact .inr ⟨by rw [hpc]; rfl, _, rfl⟩
  | _ => exact .inl rfl

theorem NetStep.checked (h : NetStep s poll s') (hc : isChecked s'.pcN = true) : s.running = true := by
  cases h <;> first | assumption | cases hc

theorem SigStep.checked (h : SigStep s arrives s') (hc : isChecked s'.pcS = true) : s.running = true := by
  cases h <;> first | assumption | cases hc

/-- A thread invokes the callback only from a checked state (`log`) and reaches one only while the node is
running (`checked`): a frozen node stays frozen, and its log grows no more. -/
theorem NetStep.frozen (h : NetStep s poll s') (hf : Frozen s) : Frozen s' ∧ s'.log = s.log := by
  obtain ⟨hr, hN, hS⟩ := hf
  refine ⟨⟨h.flags.running ▸ hr, ?_, ?_⟩, h.log.resolve_right fun hc => by simp [hN] at hc⟩
  · exact Bool.eq_false_iff.mpr fun hc => by simp [h.checked hc] at hr
  · rcases h.pcS with e | ⟨_, _, e⟩ <;> rw [e]
    · exact hS
    · rfl

theorem SigStep.frozen (h : SigStep s arrives s') (hf : Frozen s) : Frozen s' ∧ s'.log = s.log := by
  obtain ⟨hr, hN, hS⟩ := hf
  refine ⟨⟨h.flags.running ▸ hr, h.frame.1 ▸ hN, ?_⟩, h.log.resolve_right fun hc => by simp [hS] at hc⟩
  exact Bool.eq_false_iff.mpr fun hc => by simp [h.checked hc] at hr

/-! ### `MInv` is inductive -/

theorem MInv.stop_preserved (h : MInv s) (hfl : SameFlags s s')
    (hfr : Frozen s → Frozen s' ∧ s'.log = s.log) :
    (∀ k, s'.stopInCb = some k → s'.running = false ∧ s'.log.length = k ∧
      isChecked s'.pcN = false ∧ isChecked s'.pcS = false) ∧
    (s'.stoppedBeforeStart = true → s'.running = false ∧ s'.log = [] ∧
      isChecked s'.pcN = false ∧ isChecked s'.pcS = false) := by
  constructor
  · intro k hk
    obtain ⟨r, l, cN, cS⟩ := h.stopIn k (hfl.stopInCb ▸ hk)
    obtain ⟨f, hl⟩ := hfr ⟨r, cN, cS⟩
    exact ⟨f.1, hl ▸ l, f.2⟩
  · intro hb
    obtain ⟨r, l, cN, cS⟩ := h.stopBefore (hfl.stoppedBeforeStart ▸ hb)
    obtain ⟨f, hl⟩ := hfr ⟨r, cN, cS⟩
    exact ⟨f.1, hl ▸ l, f.2⟩

theorem minv_net (h : MInv s) (hs : NetStep s poll s') : MInv s' := by
  have hfl := hs.flags
  obtain ⟨lN, lS⟩ := (hs.lockEffect h.asyncOnly).preserved (by decide) h.lockN h.lockS
  obtain ⟨sI, sB⟩ := h.stop_preserved hfl hs.frozen
  refine ⟨lN, ?_, ?_, ?_, ?_, fun hp => absurd hp hs.started, sI, sB⟩
  · rcases hs.pcS with e | ⟨hm, hr, e⟩
    · rw [e]; exact lS
    · rw [e]; rw [h.syncReplay hm hr] at lS; exact lS
  · rcases hs.pcS with e | ⟨_, _, e⟩
    · rw [e]; exact h.sigOk
    · rw [e]; rfl
  · intro ha
    rw [hfl.mode]
    exact (hs.asyncPc ha).elim id h.asyncOnly
  · intro hm hr
    obtain ⟨r, e, _⟩ := hs.inReplay hr
    rw [e]; exact h.syncReplay (hfl.mode ▸ hm) r

theorem minv_sig (h : MInv s) (hs : SigStep s arrives s') : MInv s' := by
  have hfl := hs.flags
  obtain ⟨eN, _⟩ := hs.frame
  obtain ⟨lS, lN⟩ := hs.lockEffect.preserved (by decide) h.lockS h.lockN
  obtain ⟨sI, sB⟩ := h.stop_preserved hfl hs.frozen
  -- the signal thread moves, so it exists: neither before the start nor during a synchronous replay
  refine ⟨?_, lS, hs.alive.2, ?_, ?_, ?_, sI, sB⟩ <;> rw [eN] <;> try rw [hfl.mode]
  · exact lN
  · exact h.asyncOnly
  · exact fun hm hr => absurd (h.syncReplay hm hr) hs.alive.1
  · exact fun hp => absurd (h.notStarted hp).2.1 hs.alive.1

/-- a thread that is in the callback, or about to enter it, is in its critical section: it holds the
lock — or it is the network thread in the synchronous replay -/
theorem crit_net {mode : Mode} {pc : Pc} (h : inCallback pc = true ∨ isChecked pc = true) :
    holdsLockN mode pc = true ∨ (mode = .sync ∧ inReplay pc = true) := by
  cases pc <;> cases mode <;> simp_all [inCallback, isChecked, holdsLockN, holdsLockPc, inReplay]

theorem crit_sig {pc : Pc} (hok : sigPcOk pc = true) (h : inCallback pc = true ∨ isChecked pc = true) :
    holdsLockPc pc = true := by
  cases pc <;> simp_all [inCallback, isChecked, holdsLockPc, sigPcOk]

theorem inCallback_not_checked {pc : Pc} (h : inCallback pc = true) (hc : isChecked pc = true) : False := by
  cases pc <;> simp [inCallback, isChecked] at h hc

/-- mutual exclusion: the two critical sections never overlap -/
theorem MInv.exclusive (h : MInv s)
    (hN : inCallback s.pcN = true ∨ isChecked s.pcN = true)
    (hS : inCallback s.pcS = true ∨ isChecked s.pcS = true) :
    False := by
  have lS := h.lockS.2 (crit_sig h.sigOk hS)
  rcases crit_net (mode := s.mode) hN with hN | ⟨hm, hr⟩
  · have := h.lockN.2 hN; rw [lS] at this; cases this
  · rw [h.syncReplay hm hr] at hS; simp [inCallback, isChecked] at hS

/-- `stop()` from inside the callback: the log stops growing here, since the caller is past its test and
by mutual exclusion the other thread has not passed its own -/
theorem MInv.stopIn_preserved (h : MInv s) (hin : inCallback s.pcN = true ∨ inCallback s.pcS = true) :
    MInv { s with running := false, stopInCb := some (s.stopInCb.getD s.log.length) } := by
  have hlen : s.stopInCb.getD s.log.length = s.log.length := by
    cases hk : s.stopInCb with
    | none => rfl
    | some k => exact (h.stopIn k hk).2.1.symm
  have hc : isChecked s.pcN = false ∧ isChecked s.pcS = false := by
    constructor <;> refine Bool.eq_false_iff.mpr fun hc => ?_
    · exact hin.elim (inCallback_not_checked · hc) fun hS => h.exclusive (.inr hc) (.inl hS)
    · exact hin.elim (fun hN => h.exclusive (.inl hN) (.inr hc)) (inCallback_not_checked · hc)
  refine ⟨h.lockN, h.lockS, h.sigOk, h.asyncOnly, h.syncReplay, h.notStarted, ?_, ?_⟩
  · intro k hk
    cases hk
    exact ⟨rfl, hlen.symm, hc⟩
  · intro hb
    exact ⟨rfl, (h.stopBefore hb).2⟩

theorem step_minv (s s' : St) (a : Act) (h : MInv s) (hs : step s a = some s') : MInv s' := by
  cases Step.of_step hs with
  | net hs => exact minv_net h hs
  | sig hs => exact minv_sig h hs
  | startSync hpc hm =>
    obtain ⟨_, hS, hl⟩ := h.notStarted hpc
    obtain ⟨sI, sB⟩ := h.stop_preserved (s' := { s with pcN := .rTop }) ⟨rfl, rfl, rfl, rfl⟩
      fun f => ⟨⟨f.1, rfl, f.2.2⟩, rfl⟩
    exact ⟨by simp [hl, holdsLockN, holdsLockPc], h.lockS, h.sigOk, by simp [asyncPc], fun _ _ => hS, by simp,
      sI, sB⟩
  | startAsync hpc hm =>
    obtain ⟨sI, sB⟩ := h.stop_preserved (s' := { s with pcN := .rTop, pcS := .idle, lock := some .caller })
      ⟨rfl, rfl, rfl, rfl⟩ fun f => ⟨⟨f.1, rfl, rfl⟩, rfl⟩
    exact ⟨by simp [holdsLockN, holdsLockPc], by simp [holdsLockPc], rfl, by simp [asyncPc], by simp [hm], by simp,
      sI, sB⟩
  | callerRelease hl =>
    obtain ⟨sI, sB⟩ := h.stop_preserved (s' := { s with lock := none }) ⟨rfl, rfl, rfl, rfl⟩
      fun f => ⟨f, rfl⟩
    exact ⟨by simpa [hl] using h.lockN, by simpa [hl] using h.lockS, h.sigOk, h.asyncOnly, h.syncReplay,
      fun hp => by simp [(h.notStarted hp).2.2] at hl, sI, sB⟩
  | stopInNet hin => exact h.stopIn_preserved (.inl hin)
  | stopInSig hin => exact h.stopIn_preserved (.inr hin)
  | stopExt =>
    refine ⟨h.lockN, h.lockS, h.sigOk, h.asyncOnly, h.syncReplay, h.notStarted, ?_, ?_⟩
    · intro k hk
      exact ⟨rfl, (h.stopIn k hk).2⟩
    · intro hb
      simp only [Bool.or_eq_true, beq_iff_eq] at hb
      rcases hb with hb | hb
      · exact ⟨rfl, (h.stopBefore hb).2⟩
      · obtain ⟨e1, e2, _⟩ := h.notStarted hb
        exact ⟨rfl, e1, by simp [hb, e2, isChecked]⟩

theorem Reachable.induction {mode : Mode} {c : Nat} {P : St → Prop} (h0 : P (init mode c))
    (hstep : ∀ s s' a, P s → step s a = some s' → P s') {s : St} (h : Reachable mode c s) : P s :=
  let ⟨acts, hr⟩ := h
  run_induction (fun _ => rfl) (fun s a _ => by simp only [run]; cases step s a <;> rfl) hstep acts _ s h0 hr

theorem reachable_minv (mode : Mode) (c : Nat) (s : St) (h : Reachable mode c s) : MInv s :=
  h.induction (MInv_init mode c) step_minv

/-! ### the shape of the threads' state -/

def isNet : Item → Bool
  | .net _ => true
  | .sig _ => false

def netOnly : Pc → Bool
  | .want e | .locked e | .checked e | .inCb e => isNet e
  | _ => true

def sigOnly : Pc → Bool
  | .want e | .locked e | .checked e | .inCb e => !isNet e
  | _ => true

def inLoop : Pc → Bool
  | .idle | .fetch | .want _ | .locked _ | .checked _ | .inCb _ => true
  | _ => false

/-- what the program counters carry, and when the cache and the polled batch are empty -/
structure Struct (s : St) : Prop where
  netOnlyN : netOnly s.pcN = true
  sigOnlyS : sigOnly s.pcS = true
  loopCache : inLoop s.pcN = true → s.cache = []
  replayPending : inReplay s.pcN = true → s.pending = []
  doneEmpty : s.pcN = .idle ∨ s.pcN = .done → True

theorem Struct_init (mode : Mode) (c : Nat) : Struct (init mode c) := by
  constructor <;> simp [init, netOnly, sigOnly, inReplay, inLoop]

theorem NetStep.inLoop (h : NetStep s poll s') (hl : inLoop s'.pcN = true) :
    s'.cache = [] ∨ (inLoop s.pcN = true ∧ s'.cache = s.cache) := by
  cases h <;> simp_all [Node.inLoop]

theorem NetStep.netOnly (h : NetStep s poll s') (hn : netOnly s.pcN = true) :
    netOnly s'.pcN = true := by
  cases h <;> simp_all [Node.netOnly, isNet]

theorem SigStep.sigOnly (h : SigStep s arrives s') (hn : sigOnly s.pcS = true) :
    sigOnly s'.pcS = true := by
  cases h <;> simp_all [Node.sigOnly, isNet]

theorem step_struct (s s' : St) (a : Act) (h : Struct s) (hs : step s a = some s') : Struct s' := by
  cases Step.of_step hs with
  | net hs =>
    refine ⟨hs.netOnly h.netOnlyN, ?_, ?_, ?_, fun _ => trivial⟩
    · rcases hs.pcS with e | ⟨_, _, e⟩ <;> rw [e]
      · exact h.sigOnlyS
      · rfl
    · intro hl
      rcases hs.inLoop hl with e | ⟨hl, e⟩
      · exact e
      · rw [e]; exact h.loopCache hl
    · intro hr
      obtain ⟨hr, _, e⟩ := hs.inReplay hr
      rw [e]; exact h.replayPending hr
  | sig hs =>
    obtain ⟨eN, eC, eP⟩ := hs.frame
    refine ⟨?_, hs.sigOnly h.sigOnlyS, ?_, ?_, fun _ => trivial⟩ <;> rw [eN]
    · exact h.netOnlyN
    · rw [eC]; exact h.loopCache
    · rw [eP]; exact h.replayPending
  | startSync hpc hm =>
    exact ⟨rfl, h.sigOnlyS, by simp [Node.inLoop], fun _ => h.replayPending (by simp [hpc, Node.inReplay]),
      fun _ => trivial⟩
  | startAsync hpc hm =>
    exact ⟨rfl, rfl, by simp [Node.inLoop], fun _ => h.replayPending (by simp [hpc, Node.inReplay]),
      fun _ => trivial⟩
  | _ => exact ⟨h.netOnlyN, h.sigOnlyS, h.loopCache, h.replayPending, fun _ => trivial⟩

theorem reachable_struct (mode : Mode) (c : Nat) (s : St) (h : Reachable mode c s) : Struct s :=
  h.induction (Struct_init mode c) step_struct

end Mio.Node
